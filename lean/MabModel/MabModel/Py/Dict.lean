/-
  Py.Dict — Python's insertion-ordered dict as an association list.
  `d[k] = v` replaces in place or appends; `pop`; `dict.fromkeys`; `reset(d, v)` (utils.py);
  `modify` = read-modify-write of one key (what every `_fit_arm` does to its own arm).
  Core Lean only (no Mathlib) so that the driver can import it.

  The lemmas say what each operation does to the keys, to a later lookup and to membership, and how the operations
  behave under a map of the entries: a map of the values (`mapKV`), a one-to-one renaming of the keys (`rekey`), and
  the view of the values under a projection (`view`).  The model's dictionaries are only ever reasoned about through them.
-/
namespace Py
set_option linter.unusedSectionVars false

abbrev Dict (κ : Type) (ν : Type) := List (κ × ν)

variable {κ ν : Type} [DecidableEq κ]

def Dict.keys (d : Dict κ ν) : List κ := d.map (·.1)
def Dict.vals (d : Dict κ ν) : List ν := d.map (·.2)

def Dict.get? : Dict κ ν → κ → Option ν
  | [], _ => none
  | (k', v') :: t, k => if k' = k then some v' else Dict.get? t k

def Dict.getD (d : Dict κ ν) (k : κ) (dflt : ν) : ν := (d.get? k).getD dflt

/-- `d[k] = v`: replace in place if present, else append. -/
def Dict.set : Dict κ ν → κ → ν → Dict κ ν
  | [], k, v => [(k, v)]
  | (k', v') :: t, k, v => if k' = k then (k, v) :: t else (k', v') :: Dict.set t k v

def Dict.pop : Dict κ ν → κ → Dict κ ν
  | [], _ => []
  | (k', v') :: t, k => if k' = k then Dict.pop t k else (k', v') :: Dict.pop t k

def Dict.fromKeys (ks : List κ) (v : ν) : Dict κ ν := ks.map (·, v)

/-- `{k: f(k) for k in ks}` -/
def Dict.ofFn (ks : List κ) (f : κ → ν) : Dict κ ν := ks.map fun k => (k, f k)

/-- map over values with access to the key (keeps keys and order) -/
def Dict.mapKV (d : Dict κ ν) (f : κ → ν → ν) : Dict κ ν := d.map fun p => (p.1, f p.1 p.2)

/-- `reset(d, v)` from utils.py -/
def Dict.resetAll (d : Dict κ ν) (v : ν) : Dict κ ν := d.mapKV fun _ _ => v

/-- `d[k] = f(d[k])` when `k` is present (Python would raise `KeyError` otherwise; callers keep
    `arms ⊆ keys`). -/
def Dict.modify : Dict κ ν → κ → (ν → ν) → Dict κ ν
  | [], _, _ => []
  | (k', v') :: t, k, f => if k' = k then (k', f v') :: t else (k', v') :: Dict.modify t k f

/-! ### one step of each recursion, for an entry that is not written as a pair -/

theorem Dict.get?_cons (p : κ × ν) (t : Dict κ ν) (k : κ) :
    Dict.get? (p :: t) k = if p.1 = k then some p.2 else Dict.get? t k := rfl
theorem Dict.set_cons (p : κ × ν) (t : Dict κ ν) (k : κ) (v : ν) :
    Dict.set (p :: t) k v = if p.1 = k then (k, v) :: t else p :: Dict.set t k v := rfl
theorem Dict.pop_cons (p : κ × ν) (t : Dict κ ν) (k : κ) :
    Dict.pop (p :: t) k = if p.1 = k then Dict.pop t k else p :: Dict.pop t k := rfl
theorem Dict.modify_cons (p : κ × ν) (t : Dict κ ν) (k : κ) (f : ν → ν) :
    Dict.modify (p :: t) k f = if p.1 = k then (p.1, f p.2) :: t else p :: Dict.modify t k f := rfl

/-! ### the keys after each operation -/

@[simp] theorem Dict.keys_nil : Dict.keys ([] : Dict κ ν) = [] := rfl
@[simp] theorem Dict.keys_cons (p : κ × ν) (t : Dict κ ν) :
    Dict.keys (p :: t) = p.1 :: Dict.keys t := rfl

@[simp] theorem Dict.keys_ofFn (ks : List κ) (f : κ → ν) : (Dict.ofFn ks f).keys = ks := by
  simp [Dict.keys, Dict.ofFn, List.map_map, Function.comp_def]

@[simp] theorem Dict.keys_fromKeys (ks : List κ) (v : ν) : (Dict.fromKeys ks v).keys = ks :=
  Dict.keys_ofFn ks fun _ => v

@[simp] theorem Dict.keys_mapKV (d : Dict κ ν) (f : κ → ν → ν) : (d.mapKV f).keys = d.keys := by
  simp [Dict.keys, Dict.mapKV, List.map_map, Function.comp_def]

@[simp] theorem Dict.keys_resetAll (d : Dict κ ν) (v : ν) : (d.resetAll v).keys = d.keys :=
  Dict.keys_mapKV d _

@[simp] theorem Dict.keys_modify (d : Dict κ ν) (k : κ) (f : ν → ν) :
    (d.modify k f).keys = d.keys := by
  induction d with
  | nil => rfl
  | cons p t ih => rw [Dict.modify_cons, apply_ite Dict.keys, Dict.keys_cons, Dict.keys_cons, Dict.keys_cons, ih, ite_self]

theorem Dict.keys_set (d : Dict κ ν) (k : κ) (v : ν) :
    (d.set k v).keys = if k ∈ d.keys then d.keys else d.keys ++ [k] := by
  induction d with
  | nil => rfl
  | cons p t ih =>
    rw [Dict.set_cons, Dict.keys_cons]
    by_cases h : p.1 = k
    · rw [if_pos h, if_pos (List.mem_cons.mpr (Or.inl h.symm)), Dict.keys_cons, h]
    · rw [if_neg h, Dict.keys_cons, ih]
      by_cases hm : k ∈ Dict.keys t
      · rw [if_pos hm, if_pos (List.mem_cons_of_mem _ hm)]
      · rw [if_neg hm, if_neg fun hc => (List.mem_cons.mp hc).elim (fun e => h e.symm) hm]; rfl

theorem Dict.keys_set_mem (d : Dict κ ν) (k : κ) (v : ν) (h : k ∈ d.keys) :
    (d.set k v).keys = d.keys := (Dict.keys_set d k v).trans (if_pos h)

theorem Dict.keys_set_not_mem (d : Dict κ ν) (k : κ) (v : ν) (h : k ∉ d.keys) :
    (d.set k v).keys = d.keys ++ [k] := (Dict.keys_set d k v).trans (if_neg h)

/-- `pop` drops every entry under the key (there is at most one in a dictionary the code builds) -/
theorem Dict.pop_eq_filter (d : Dict κ ν) (k : κ) : d.pop k = d.filter (fun p => p.1 != k) := by
  induction d with
  | nil => rfl
  | cons p t ih => simp only [Dict.pop_cons, List.filter_cons, ih, bne_iff_ne, ne_eq, ite_not]

theorem Dict.keys_pop (d : Dict κ ν) (k : κ) : (d.pop k).keys = d.keys.filter (· != k) := by
  rw [Dict.pop_eq_filter, Dict.keys, Dict.keys, List.filter_map]; rfl

theorem Dict.mem_keys_of_mem (d : Dict κ ν) (k : κ) (v : ν) (h : (k, v) ∈ d) : k ∈ d.keys :=
  List.mem_map.mpr ⟨(k, v), h, rfl⟩

omit [DecidableEq κ] in
/-- `dict(zip(ks, vs))` with at least as many values as keys (used where the keys have no decidable equality) -/
theorem Dict.keys_zip (ks : List κ) (vs : List ν) (h : ks.length ≤ vs.length) : Dict.keys (List.zip ks vs) = ks :=
  List.map_fst_zip h

/-! ### read after write -/

theorem Dict.get?_isSome_iff (d : Dict κ ν) (k : κ) : (d.get? k).isSome ↔ k ∈ d.keys := by
  induction d with
  | nil => exact ⟨fun h => Bool.noConfusion h, fun h => nomatch h⟩
  | cons p t ih =>
    rw [Dict.get?_cons, Dict.keys_cons, List.mem_cons]
    by_cases h : p.1 = k
    · rw [if_pos h]; exact ⟨fun _ => Or.inl h.symm, fun _ => rfl⟩
    · rw [if_neg h, ih, or_iff_right (Ne.symm h)]

theorem Dict.get?_none_of_not_mem (d : Dict κ ν) (k : κ) (h : k ∉ d.keys) : d.get? k = none :=
  Option.not_isSome_iff_eq_none.mp fun hs => h ((Dict.get?_isSome_iff d k).mp hs)

theorem Dict.get?_set (d : Dict κ ν) (k k₂ : κ) (v : ν) :
    (d.set k v).get? k₂ = if k₂ = k then some v else d.get? k₂ := by
  induction d with
  | nil => simp [Dict.set, Dict.get?, eq_comm]
  | cons p t ih => obtain ⟨k', v'⟩ := p; grind [Dict.set, Dict.get?]

theorem Dict.get?_pop (d : Dict κ ν) (k k₂ : κ) :
    (d.pop k).get? k₂ = if k₂ = k then none else d.get? k₂ := by
  induction d with
  | nil => simp [Dict.pop, Dict.get?]
  | cons p t ih => obtain ⟨k', v'⟩ := p; grind [Dict.pop, Dict.get?]

theorem Dict.get?_modify (d : Dict κ ν) (k k₂ : κ) (f : ν → ν) :
    (d.modify k f).get? k₂ = if k₂ = k then (d.get? k₂).map f else d.get? k₂ := by
  induction d with
  | nil => simp [Dict.modify, Dict.get?]
  | cons p t ih => obtain ⟨k', v'⟩ := p; grind [Dict.modify, Dict.get?]

theorem Dict.get?_set_eq (d : Dict κ ν) (k : κ) (v : ν) : (d.set k v).get? k = some v :=
  (Dict.get?_set d k k v).trans (if_pos rfl)

theorem Dict.get?_set_ne {d : Dict κ ν} {k k₂ : κ} {v : ν} (h : k₂ ≠ k) : (d.set k v).get? k₂ = d.get? k₂ :=
  (Dict.get?_set d k k₂ v).trans (if_neg h)

theorem Dict.get?_pop_ne {d : Dict κ ν} {k k₂ : κ} (h : k₂ ≠ k) :
    (d.pop k).get? k₂ = d.get? k₂ :=
  (Dict.get?_pop d k k₂).trans (if_neg h)

theorem Dict.get?_pop_eq (d : Dict κ ν) (k : κ) : (d.pop k).get? k = none :=
  (Dict.get?_pop d k k).trans (if_pos rfl)

theorem Dict.get?_modify_eq (d : Dict κ ν) (k : κ) (f : ν → ν) :
    (d.modify k f).get? k = (d.get? k).map f :=
  (Dict.get?_modify d k k f).trans (if_pos rfl)

theorem Dict.get?_modify_ne {d : Dict κ ν} {k k₂ : κ} {f : ν → ν} (h : k₂ ≠ k) :
    (d.modify k f).get? k₂ = d.get? k₂ :=
  (Dict.get?_modify d k k₂ f).trans (if_neg h)

theorem Dict.modify_id (d : Dict κ ν) (k : κ) : d.modify k id = d := by
  induction d with
  | nil => rfl
  | cons p t ih => rw [Dict.modify_cons, ih]; split <;> rfl

theorem Dict.get?_ofFn (ks : List κ) (f : κ → ν) (k : κ) (h : k ∈ ks) :
    (Dict.ofFn ks f).get? k = some (f k) := by
  induction ks with
  | nil => exact nomatch h
  | cons k' t ih =>
    rw [Dict.ofFn, List.map_cons, Dict.get?_cons]
    by_cases e : k' = k
    · rw [if_pos e, e]
    · rw [if_neg e]; exact ih ((List.mem_cons.mp h).resolve_left (Ne.symm e))

theorem Dict.get?_fromKeys (ks : List κ) (v : ν) (k : κ) (h : k ∈ ks) :
    (Dict.fromKeys ks v).get? k = some v := Dict.get?_ofFn ks (fun _ => v) k h

theorem Dict.getD_set_eq (d : Dict κ ν) (k : κ) (v dflt : ν) : (d.set k v).getD k dflt = v := by
  rw [Dict.getD, Dict.get?_set_eq]; rfl

theorem Dict.getD_set_ne {d : Dict κ ν} {k k₂ : κ} {v : ν} (dflt : ν) (h : k₂ ≠ k) :
    (d.set k v).getD k₂ dflt = d.getD k₂ dflt := by
  rw [Dict.getD, Dict.get?_set_ne h]; rfl

/-- filling buckets: the LSH tables and the leaf stores of TreeBandit are built by this fold -/
theorem Dict.getD_foldl_bucket {T γ : Type} (key : T → κ) (val : T → List γ) (l : κ) (z : List T) :
    ∀ d : Dict κ (List γ), (z.foldl (fun d x => d.set (key x) (d.getD (key x) [] ++ val x)) d).getD l [] =
      d.getD l [] ++ (z.filter fun x => key x = l).flatMap val := by
  induction z with
  | nil => intro d; exact (List.append_nil _).symm
  | cons x z ih =>
    intro d
    rw [List.foldl_cons, ih, List.filter_cons]
    by_cases h : key x = l
    · rw [h, Dict.getD_set_eq, if_pos (decide_eq_true rfl), List.flatMap_cons, List.append_assoc]
    · rw [Dict.getD_set_ne _ (Ne.symm h), if_neg (by simpa using h)]

/-! ### an entry of the result comes from the argument -/

theorem Dict.mem_set (d : Dict κ ν) (k : κ) (v : ν) (p : κ × ν) (hp : p ∈ d.set k v) : p = (k, v) ∨ p ∈ d := by
  induction d with
  | nil => exact Or.inl (List.mem_singleton.mp hp)
  | cons x t ih =>
    rw [Dict.set_cons] at hp
    split at hp
    · exact (List.mem_cons.mp hp).imp id (List.mem_cons_of_mem _)
    · rcases List.mem_cons.mp hp with e | e
      · exact Or.inr (e ▸ List.mem_cons_self)
      · exact (ih e).imp id (List.mem_cons_of_mem _)

theorem Dict.mem_pop (d : Dict κ ν) (k : κ) (p : κ × ν) (hp : p ∈ d.pop k) : p ∈ d :=
  (List.mem_filter.mp (Dict.pop_eq_filter d k ▸ hp)).1

theorem Dict.mem_modify (d : Dict κ ν) (a : κ) (f : ν → ν) (p : κ × ν) (hp : p ∈ d.modify a f) :
    p ∈ d ∨ ∃ v, (p.1, v) ∈ d ∧ p.2 = f v := by
  induction d with
  | nil => exact nomatch hp
  | cons x t ih =>
    rw [Dict.modify_cons] at hp
    split at hp
    · rcases List.mem_cons.mp hp with e | e
      · exact Or.inr ⟨x.2, e ▸ List.mem_cons_self, e ▸ rfl⟩
      · exact Or.inl (List.mem_cons_of_mem _ e)
    · rcases List.mem_cons.mp hp with e | e
      · exact Or.inl (e ▸ List.mem_cons_self)
      · exact (ih e).imp (List.mem_cons_of_mem _) fun ⟨v, h1, h2⟩ => ⟨v, List.mem_cons_of_mem _ h1, h2⟩

/-! ### entries mapped one by one

  `mapKV` and the renaming of keys (`rekey`, below) both map the entries; what the two have in common is said once, for
  keys renamed along a one-to-one `f` and values mapped by an `h` that may look at the key. -/

section map
variable {κ' ν' : Type} [DecidableEq κ'] {f : κ → κ'} (hf : Function.Injective f) (h : κ → ν → ν')
include hf

theorem Dict.get?_map (d : Dict κ ν) (k : κ) :
    Dict.get? (d.map fun p => (f p.1, h p.1 p.2)) (f k) = (d.get? k).map (h k) := by
  induction d with
  | nil => rfl
  | cons p t ih =>
    rw [List.map_cons, Dict.get?_cons, Dict.get?_cons]
    by_cases e : p.1 = k
    · rw [if_pos e, if_pos (congrArg f e), e]; rfl
    · rw [if_neg e, if_neg fun e' => e (hf e'), ih]

theorem Dict.set_map (d : Dict κ ν) (k : κ) (v : ν) :
    Dict.set (d.map fun p => (f p.1, h p.1 p.2)) (f k) (h k v) = (d.set k v).map fun p => (f p.1, h p.1 p.2) := by
  induction d with
  | nil => rfl
  | cons p t ih =>
    rw [List.map_cons, Dict.set_cons, Dict.set_cons]
    by_cases e : p.1 = k
    · rw [if_pos e, if_pos (congrArg f e)]; rfl
    · rw [if_neg e, if_neg fun e' => e (hf e'), ih]; rfl

theorem Dict.modify_map (d : Dict κ ν) (k : κ) (u : ν → ν) (u' : ν' → ν') (hu : ∀ v, u' (h k v) = h k (u v)) :
    Dict.modify (d.map fun p => (f p.1, h p.1 p.2)) (f k) u' = (d.modify k u).map fun p => (f p.1, h p.1 p.2) := by
  induction d with
  | nil => rfl
  | cons p t ih =>
    rw [List.map_cons, Dict.modify_cons, Dict.modify_cons]
    by_cases e : p.1 = k
    · rw [if_pos e, if_pos (congrArg f e), List.map_cons, e, hu]
    · rw [if_neg e, if_neg fun e' => e (hf e'), ih]; rfl

theorem Dict.pop_map (d : Dict κ ν) (k : κ) :
    Dict.pop (d.map fun p => (f p.1, h p.1 p.2)) (f k) = (d.pop k).map fun p => (f p.1, h p.1 p.2) := by
  rw [Dict.pop_eq_filter, Dict.pop_eq_filter, List.filter_map]
  exact congrArg _ (List.filter_congr fun p _ => by simp only [Function.comp, bne, BEq.beq, hf.eq_iff])

end map

/-! ### `mapKV`: the instances for a map of the values, and `modify` as a `mapKV` -/

theorem Dict.mapKV_mapKV (d : Dict κ ν) (f g : κ → ν → ν) :
    (d.mapKV f).mapKV g = d.mapKV (fun k v => g k (f k v)) := by
  simp [Dict.mapKV, List.map_map, Function.comp_def]

theorem Dict.mapKV_id (d : Dict κ ν) : d.mapKV (fun _ v => v) = d := List.map_id' d

theorem Dict.mapKV_congr (d : Dict κ ν) (f g : κ → ν → ν)
    (h : ∀ k v, (k, v) ∈ d → f k v = g k v) : d.mapKV f = d.mapKV g :=
  List.map_congr_left fun p hp => by rw [h p.1 p.2 hp]

theorem Dict.get?_mapKV (d : Dict κ ν) (f : κ → ν → ν) (k : κ) :
    (d.mapKV f).get? k = (d.get? k).map (f k) :=
  Dict.get?_map Function.injective_id f d k

theorem Dict.mapKV_modify_comm (d : Dict κ ν) (g : κ → ν → ν) (a : κ) (f : ν → ν)
    (h : ∀ k r, f (g k r) = g k (f r)) : (d.mapKV g).modify a f = (d.modify a f).mapKV g :=
  Dict.modify_map Function.injective_id g d a f f (h a)

theorem Dict.mapKV_set_comm (d : Dict κ ν) (g : κ → ν → ν) (a : κ) (v : ν) :
    (d.mapKV g).set a (g a v) = (d.set a v).mapKV g :=
  Dict.set_map Function.injective_id g d a v

theorem Dict.mapKV_pop_comm (d : Dict κ ν) (g : κ → ν → ν) (a : κ) :
    (d.mapKV g).pop a = (d.pop a).mapKV g :=
  Dict.pop_map Function.injective_id g d a

theorem Dict.mapKV_id_of_not_mem (t : Dict κ ν) (k : κ) (f : ν → ν) (h : k ∉ Dict.keys t) :
    t.mapKV (fun c v => if c = k then f v else v) = t :=
  (Dict.mapKV_congr t _ (fun _ v => v) fun c v hc =>
    if_neg fun (e : c = k) => h (e ▸ Dict.mem_keys_of_mem t c v hc)).trans (Dict.mapKV_id t)

theorem Dict.modify_eq_mapKV (d : Dict κ ν) (k : κ) (f : ν → ν) (hn : d.keys.Nodup) :
    d.modify k f = d.mapKV (fun c v => if c = k then f v else v) := by
  induction d with
  | nil => rfl
  | cons p t ih =>
    obtain ⟨hp, ht⟩ := List.nodup_cons.mp hn
    rw [Dict.modify_cons]
    show _ = (p.1, if p.1 = k then f p.2 else p.2) :: Dict.mapKV t fun c v => if c = k then f v else v
    by_cases h : p.1 = k
    · rw [if_pos h, if_pos h, Dict.mapKV_id_of_not_mem t k f (h ▸ hp)]
    · rw [if_neg h, if_neg h, ← ih ht]

/-- The per-arm tasks of `_parallel_fit`, run in the order `l`, as one `mapKV` — in particular the
    result does not depend on the order of `l` (C05) and touches exactly the keys in `l`. -/
theorem Dict.foldl_modify (l : List κ) (f : κ → ν → ν) (hl : l.Nodup) :
    ∀ d : Dict κ ν, d.keys.Nodup →
      l.foldl (fun d a => d.modify a (f a)) d = d.mapKV (fun c v => if c ∈ l then f c v else v) := by
  induction l with
  | nil => intro d _; simp [Dict.mapKV]
  | cons a l ih =>
    intro d hd
    obtain ⟨hn, hl'⟩ := List.nodup_cons.mp hl
    rw [List.foldl_cons, ih hl' _ ((Dict.keys_modify d a _).symm ▸ hd), Dict.modify_eq_mapKV d a (f a) hd, Dict.mapKV_mapKV]
    refine Dict.mapKV_congr _ _ _ fun k v _ => ?_
    by_cases h1 : k = a
    · subst h1; simp [hn]
    · simp [h1]

/-! ### renaming the keys

  Renaming the keys along a one-to-one map (and mapping the values along): every dictionary operation
  commutes with it. -/

section rekey
variable {κ' ν' : Type}

def Dict.rekey (f : κ → κ') (g : ν → ν') (d : Dict κ ν) : Dict κ' ν' := d.map fun p => (f p.1, g p.2)

section
variable (f : κ → κ') (g : ν → ν')

theorem Dict.rekey_append (d e : Dict κ ν) : Dict.rekey f g (d ++ e) = Dict.rekey f g d ++ Dict.rekey f g e :=
  List.map_append

theorem Dict.keys_rekey (d : Dict κ ν) : (Dict.rekey f g d).keys = d.keys.map f := by
  simp [Dict.rekey, Dict.keys, List.map_map, Function.comp_def]

theorem Dict.vals_rekey (d : Dict κ ν) : (Dict.rekey f g d).vals = d.vals.map g := by
  simp [Dict.rekey, Dict.vals, List.map_map, Function.comp_def]

theorem Dict.length_rekey (d : Dict κ ν) : (Dict.rekey f g d).length = d.length := List.length_map _

theorem Dict.rekey_fromKeys (ks : List κ) (v : ν) :
    Dict.rekey f g (Dict.fromKeys ks v) = Dict.fromKeys (ks.map f) (g v) := by
  simp [Dict.rekey, Dict.fromKeys, List.map_map, Function.comp_def]

theorem Dict.rekey_ofFn (ks : List κ) (h : κ → ν) (h' : κ' → ν') (hh : ∀ k ∈ ks, h' (f k) = g (h k)) :
    Dict.rekey f g (Dict.ofFn ks h) = Dict.ofFn (ks.map f) h' := by
  simp only [Dict.rekey, Dict.ofFn, List.map_map]
  exact List.map_congr_left fun k hk => by simp [hh k hk]

theorem Dict.mapKV_rekey (d : Dict κ ν) (h : κ → ν → ν) (h' : κ' → ν' → ν')
    (hh : ∀ k v, (k, v) ∈ d → h' (f k) (g v) = g (h k v)) :
    (Dict.rekey f g d).mapKV h' = Dict.rekey f g (d.mapKV h) := by
  simp only [Dict.rekey, Dict.mapKV, List.map_map]
  exact List.map_congr_left fun p hp => by simp [hh p.1 p.2 hp]

end

/-! The operations that look a key up need `f` one-to-one: then `f k' = f k` decides as `k' = k`. -/
section
variable [DecidableEq κ'] {f : κ → κ'} (hf : Function.Injective f) (g : ν → ν')
include hf

theorem Dict.get?_rekey (d : Dict κ ν) (k : κ) : (Dict.rekey f g d).get? (f k) = (d.get? k).map g :=
  Dict.get?_map hf (fun _ => g) d k

theorem Dict.set_rekey (d : Dict κ ν) (k : κ) (v : ν) :
    (Dict.rekey f g d).set (f k) (g v) = Dict.rekey f g (d.set k v) :=
  Dict.set_map hf (fun _ => g) d k v

theorem Dict.pop_rekey (d : Dict κ ν) (k : κ) : (Dict.rekey f g d).pop (f k) = Dict.rekey f g (d.pop k) :=
  Dict.pop_map hf (fun _ => g) d k

theorem Dict.modify_rekey (d : Dict κ ν) (k : κ) (h : ν → ν) (h' : ν' → ν') (hh : ∀ v, h' (g v) = g (h v)) :
    (Dict.rekey f g d).modify (f k) h' = Dict.rekey f g (d.modify k h) :=
  Dict.modify_map hf (fun _ => g) d k h h' hh

/-! When only the keys are renamed (`g = id`) the statements lose their `id`s. -/

theorem Dict.get?_rekey_id (d : Dict κ ν) (k : κ) : (Dict.rekey f id d).get? (f k) = d.get? k :=
  (Dict.get?_rekey hf id d k).trans (Option.map_id' ..)

theorem Dict.getD_rekey_id (d : Dict κ ν) (k : κ) (v : ν) : (Dict.rekey f id d).getD (f k) v = d.getD k v := by
  simp only [Dict.getD, Dict.get?_rekey_id hf]

theorem Dict.set_rekey_id (d : Dict κ ν) (k : κ) (v : ν) : (Dict.rekey f id d).set (f k) v = Dict.rekey f id (d.set k v) :=
  Dict.set_rekey hf id d k v

theorem Dict.modify_rekey_id (d : Dict κ ν) (k : κ) (h : ν → ν) :
    (Dict.rekey f id d).modify (f k) h = Dict.rekey f id (d.modify k h) :=
  Dict.modify_rekey hf id d k h h fun _ => rfl

end

/-! ### the view of the values under a projection -/

section view
variable {β : Type} (pr : ν → β)

/-- same keys, in the same order, each value seen through `pr` -/
abbrev Dict.view (d : Dict κ ν) : Dict κ β := Dict.rekey id pr d

theorem Dict.view_modify (d : Dict κ ν) (a : κ) (f : ν → ν) (hf : ∀ v, pr (f v) = pr v) :
    Dict.view pr (d.modify a f) = Dict.view pr d :=
  (Dict.modify_rekey Function.injective_id pr d a f id fun v => (hf v).symm).symm.trans (Dict.modify_id _ a)

theorem Dict.view_mapKV (d : Dict κ ν) (f : κ → ν → ν) (hf : ∀ k v, pr (f k v) = pr v) :
    Dict.view pr (d.mapKV f) = Dict.view pr d := by
  simp only [Dict.view, Dict.rekey, Dict.mapKV, List.map_map, Function.comp_def, hf]

variable {pr} {d d' : Dict κ ν} (h : Dict.view pr d' = Dict.view pr d)
include h

theorem Dict.vals_of_view : d'.vals.map pr = d.vals.map pr := by
  simpa only [Dict.vals_rekey] using congrArg Dict.vals h

theorem Dict.get?_of_view (a : κ) : (d'.get? a).map pr = (d.get? a).map pr :=
  (Dict.get?_rekey Function.injective_id pr d' a).symm.trans
    ((congrArg (Dict.get? · a) h).trans (Dict.get?_rekey Function.injective_id pr d a))

end view
end rekey

end Py
