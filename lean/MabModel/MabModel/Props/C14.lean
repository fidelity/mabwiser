/-
  C14 — a Thompson binarizer is applied to every reward exactly once.
-/
import MabModel.Lemmas.Store
open Py
set_option linter.unusedSectionVars false

namespace Mab
variable {α : Type} [DecidableEq α]

/-- forget the binarizer (the twin bandit that is fed pre-converted rewards has none) -/
def LP.noBinz (s : LP α) : LP α := { s with binz := none }
def LP.withBinz (s : LP α) (f : Option (α → Rat → Rat)) : LP α := { s with binz := f }

/-! ### nothing after the conversion of the rewards reads the binarizer

  Training, the two passes and the arm changes (without a new binarizer) commute with setting it. -/

theorem train_withBinz (s : LP α) (f : Option (α → Rat → Rat)) (B : Batch α) (p : Bool) :
    (s.withBinz f).train B p = (s.train B p).withBinz f := by
  unfold LP.train LP.parallelFit
  rw [parallelFitIn_eq, parallelFitIn_eq, post_eq_mapKV, post_eq_mapKV]
  rfl

theorem expOp_withBinz (s : LP α) (f : Option (α → Rat → Rat)) : (s.withBinz f).expOp = s.expOp.withBinz f := by
  rw [expOp_eq, expOp_eq]; rfl

theorem normalize_withBinz (s : LP α) (f : Option (α → Rat → Rat)) :
    (s.withBinz f).normalize = s.normalize.withBinz f := by
  rw [normalize_eq, normalize_eq]; rfl

theorem addArm_withBinz (s : LP α) (f : Option (α → Rat → Rat)) (a : α) :
    (s.withBinz f).addArm a = (s.addArm a).withBinz f := by
  unfold LP.addArm
  have : (s.withBinz f).insertArm a none = (s.insertArm a none).withBinz f := by
    obtain ⟨kind⟩ := s
    cases kind <;> rfl
  rw [this, expOp_withBinz]

theorem removeArm_withBinz (s : LP α) (f : Option (α → Rat → Rat)) (a : α) :
    (s.withBinz f).removeArm a = (s.removeArm a).withBinz f := by
  unfold LP.removeArm
  have : (s.withBinz f).dropArm a = (s.dropArm a).withBinz f := rfl
  rw [this, expOp_withBinz, normalize_withBinz]

/-! ### each reward is converted once -/

theorem binarize_noBinz (s : LP α) (B : Batch α) : s.noBinz.binarize B = B := binarize_none _ rfl B

/-- **C14 (fit).**  `fit` of a policy holding a binarizer is `fit` of the same policy without binarizer
    on the rewards converted by `_get_binary_rewards` — each reward converted exactly once — and the
    binarizer is kept for later calls. -/
theorem fit_binarizer_once (s : LP α) (b : Batch α) (w : Option Nat) :
    s.fit b w = (s.noBinz.fit (s.binarize b) w).withBinz s.binz := by
  by_cases hk : s.kind = .random
  · rw [fit_random s b w hk, fit_random s.noBinz _ w hk]; rfl
  · rw [fit_eq_train s b w hk, fit_eq_train s.noBinz _ w hk, binarize_noBinz]
    exact train_withBinz (s.noBinz.resetFor _ w) s.binz _ false

theorem partialFit_binarizer_once (s : LP α) (b : Batch α) :
    s.partialFit b = (s.noBinz.partialFit (s.binarize b)).withBinz s.binz := by
  by_cases hk : s.kind = .random
  · rw [partialFit_random s b hk, partialFit_random s.noBinz _ hk]; rfl
  · rw [partialFit_eq_train s b hk, partialFit_eq_train s.noBinz _ hk, binarize_noBinz]
    exact train_withBinz (s.noBinz.bumpTotal _) s.binz _ true

/-- the conversion itself: `binarizer(decision, reward)` per observation, when a binarizer is set and
    the rewards were not converted by a neighbourhood policy already -/
theorem binarize_spec (s : LP α) (f : α → Rat → Rat) (b : Batch α) (hf : s.binz = some f) (hc : s.ctxBin = false) :
    s.binarize b = b.map fun r => { r with reward := f r.arm r.reward } := by
  simp [LP.binarize, hf, hc]

theorem binarize_noop_ctxBin (s : LP α) (b : Batch α) (hc : s.ctxBin = true) : s.binarize b = b := by
  unfold LP.binarize; cases s.binz <;> simp [hc]

/-- **C14 (neighbourhood policies).**  Radius / KNearest / LSHNearest / Clusters / TreeBandit convert the
    rewards once when they arrive (`fit` and `partial_fit` alike), store the converted values and mark
    the learning policy so that its own `fit` on a neighbourhood does not convert again. -/
theorem np_binarize_once (lp : LP α) (f : α → Rat → Rat) (b : Batch α) (hk : lp.kind = .thompson) (hf : lp.binz = some f) :
    (npBinarize lp b).2 = (b.map fun r => { r with reward := f r.arm r.reward }) ∧
    (npBinarize lp b).1.ctxBin = true ∧
    ∀ rows, (npBinarize lp b).1.binarize rows = rows := by
  rw [npBinarize_eq]
  simp only [LP.npConv, LP.npConverts, hk, hf, Bool.true_or, true_and]
  exact fun rows => binarize_noop_ctxBin _ rows rfl

/-- after `add_arm(arm, new_binarizer)` on a Radius / KNearest / LSHNearest bandit the stored rewards
    are still not converted again, and subsequent observations use the new binarizer -/
theorem addArm_new_binarizer (b : Bandit α) (a : α) (f' : α → Rat → Rat) (r : Rat) (m : Metric) (pr : Option (List Rat))
    (hnp : b.np = .radius r m pr) (hk : b.lp.kind = .thompson) :
    (b.impAddArm a (some f')).lp.ctxBin = true ∧ (b.impAddArm a (some f')).lp.binz = some f' ∧
    (b.impAddArm a (some f')).hist = b.hist := by
  have hk2 : (b.lp.addArm a (some f')).kind = .thompson := (addArm_kind ..).trans hk
  have hbz : (b.lp.addArm a (some f')).binz = some f' :=
    (expOp_sameCfg (b.lp.insertArm a (some f'))).binz.symm.trans (by simp [LP.insertArm, hk])
  simp only [Bandit.impAddArm, hnp, hk2]
  exact ⟨trivial, hbz, trivial⟩

/-! ### known finding K2: TreeBandit converts twice -/

def k2Binz : Nat → Rat → Rat := fun _ r => if r ≤ (1 : Rat) / 2 then 1 else 0   -- not idempotent on {0,1}

def k2Bandit : Bandit Nat :=
  ((Bandit.init [0] .thompson .tree (some k2Binz)).impFit
      [⟨0, 0, [1]⟩, ⟨0, 0, [1]⟩, ⟨0, 0, [1]⟩] { leaves := [[1, 1, 1]] } { tape := [] }).1

/-- three observations with reward 0: the binarizer maps each to a success, so the leaf holds [1,1,1]
    and the Beta parameters should be (4, 1); the leaf policy converts them again to failures: (1, 4). -/
theorem tree_binarizer_twice_counterexample :
    (k2Bandit.leafRewards.getD 0 []).getD 1 [] = [1, 1, 1] ∧
    ((k2Bandit.treeLeafExp 0 [1, 1, 1] { tape := [[1/2]] }).2.reqs.map (·.params)) = [[.val 1, .val 4]] := by
  decide +kernel

end Mab
