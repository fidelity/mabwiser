/-
  C05 — results do not depend on n_jobs, backend or scheduling: the logical part (`_partition_contexts` is an exact
  ordered cover of the rows, any contiguous partition gives the row-wise results, the per-arm `_fit_arm` tasks commute).
  Real thread pre-emption, process scheduling and pickling are outside the model (sampled by the harness across
  backends).
-/
import MabModel.Lemmas.LPBasic
import MabModel.Core.Parallel
open Py

namespace Mab
variable {α : Type} [DecidableEq α]

theorem sum_range_sizes (q r : Nat) : ∀ j : Nat,
    ((List.range j).map fun i => q + (if i < r then 1 else 0)).sum = j * q + min r j := by
  intro j
  induction j with
  | zero => simp
  | succ j ih =>
    rw [List.range_succ, List.map_append, List.sum_append, ih, List.map_singleton, List.sum_singleton, Nat.succ_mul]
    split
    · next h => rw [Nat.min_eq_right (Nat.le_of_lt h), Nat.min_eq_right h]; omega
    · next h => rw [Nat.min_eq_left (Nat.le_of_not_lt h), Nat.min_eq_left (Nat.le_succ_of_le (Nat.le_of_not_lt h))]; omega

/-- `_effective_jobs`: a negative `n_jobs` counts back from the number of CPUs (`-1` = all), and there are never
    more workers than rows -/
theorem effectiveJobs_bounds (n : Nat) (nJobs : Int) (cpu : Nat) (hn : 1 ≤ n) (hj : nJobs ≠ 0) :
    1 ≤ effectiveJobs n nJobs cpu ∧ effectiveJobs n nJobs cpu ≤ n := by
  unfold effectiveJobs
  refine ⟨Nat.le_min.mpr ⟨?_, hn⟩, Nat.min_le_right _ _⟩
  split <;> omega

/-- **C05 (partition).** For every `n ≥ 1`, `n_jobs ≠ 0`, `cpu`: the chunk sizes are all positive,
    there are exactly `n_jobs_effective` of them, they sum to `n`, and `starts` are their prefix sums
    beginning at 0. -/
theorem partition_exact_cover (n : Nat) (nJobs : Int) (cpu : Nat) (hn : 1 ≤ n) (hj : nJobs ≠ 0) :
    let p := partitionContexts n nJobs cpu
    p.2.1.length = p.1 ∧ p.2.1.sum = n ∧ (∀ s ∈ p.2.1, 1 ≤ s) ∧ p.2.2 = 0 :: prefixSums p.2.1 0 ∧
    1 ≤ p.1 ∧ p.1 ≤ n := by
  obtain ⟨h1, h2⟩ := effectiveJobs_bounds n nJobs cpu hn hj
  simp only [partitionContexts]
  refine ⟨by simp, ?_, ?_, by simp, h1, h2⟩
  · rw [sum_range_sizes]
    have hm : n % effectiveJobs n nJobs cpu < effectiveJobs n nJobs cpu := Nat.mod_lt _ h1
    rw [Nat.min_eq_left (Nat.le_of_lt hm)]
    exact Nat.div_add_mod n _
  · intro s hs
    simp only [List.mem_map, List.mem_range] at hs
    obtain ⟨i, _, rfl⟩ := hs
    have : 1 ≤ n / effectiveJobs n nJobs cpu := (Nat.one_le_div_iff h1).mpr h2
    omega

theorem splitBySizes_flatten {β : Type} : ∀ (sizes : List Nat) (l : List β), sizes.sum = l.length →
    (splitBySizes sizes l).flatten = l := by
  intro sizes
  induction sizes with
  | nil => intro l h; simp at h; simp [splitBySizes, List.eq_nil_of_length_eq_zero h.symm]
  | cons k ks ih =>
    intro l h
    simp only [splitBySizes, List.flatten_cons]
    rw [ih (l.drop k) (by simp [List.length_drop] at h ⊢; omega)]
    exact List.take_append_drop k l

/-- **C05 (any partition).** For *every* split of the rows into contiguous chunks and every row-local
    worker `f`, reducing the per-chunk result lists gives exactly the row-wise results, in row order. -/
theorem chunked_map {β γ : Type} (f : β → γ) (sizes : List Nat) (rows : List β) (h : sizes.sum = rows.length) :
    ((splitBySizes sizes rows).map (·.map f)).flatten = rows.map f := by
  rw [← List.map_flatten, splitBySizes_flatten sizes rows h]

/-- the partition the library picks is one of them -/
theorem predict_any_partition {β γ : Type} (f : β → γ) (rows : List β) (nJobs : Int) (cpu : Nat)
    (hn : 1 ≤ rows.length) (hj : nJobs ≠ 0) :
    ((splitBySizes (partitionContexts rows.length nJobs cpu).2.1 rows).map (·.map f)).flatten = rows.map f :=
  chunked_map f _ rows (partition_exact_cover rows.length nJobs cpu hn hj).2.1

/-- **C05 (fit tasks commute).** `_parallel_fit` run in any order of the arm tasks (any permutation of
    any duplicate-free task list) yields the same policy state: each task reads and writes only its own
    arm's entry. -/
theorem fit_tasks_commute (s : LP α) (b : Batch α) (o₁ o₂ : List α) (h1 : o₁.Nodup) (h2 : o₂.Nodup)
    (hperm : ∀ a, a ∈ o₁ ↔ a ∈ o₂) (hk : s.st.keys.Nodup) :
    s.parallelFitIn b o₁ = s.parallelFitIn b o₂ := by
  rw [parallelFitIn_closed s b o₁ h1 hk, parallelFitIn_closed s b o₂ h2 hk]
  congr 1
  apply Dict.mapKV_congr
  exact fun k v _ => ite_congr (propext (hperm k)) (fun _ => rfl) (fun _ => rfl)

example : partitionContexts 7 3 16 = (3, [3, 2, 2], [0, 3, 5, 7]) := by decide +kernel
example : partitionContexts 2 (-1) 16 = (2, [1, 1], [0, 1, 2]) := by decide +kernel

end Mab
