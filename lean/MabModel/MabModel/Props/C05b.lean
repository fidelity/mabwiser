/-
  C05 (continued) — row-locality of the neighbourhood workers (Radius, KNearest, LSHNearest) for every learning
  policy: outputs, draws and requests of a row do not depend on what the worker's policy copy was fit on or drew
  before, hence not on the rows the worker handled before, hence every contiguous partition of the query rows
  among workers gives the results of one worker handling all rows.  The relation the copy keeps to the template
  is `SameCfg`: same configuration, whatever has been learned and whatever the last Thompson draw was.
-/
import MabModel.Props.C07
import MabModel.Lemmas.Norm
import MabModel.Lemmas.Nhood
open Py

namespace Mab
variable {α : Type} [DecidableEq α]

theorem sameConfig_normT (s s' : LP α) (h : SameCfg s s') : SameConfig s.normT s'.normT :=
  ⟨h.kind, h.arms, by simp [LP.normT, h.keys], h.binz, h.ctxBin, h.k1, h.nf,
   fun _ => by
    -- with the draws forgotten the (key, draw) pairs are a function of the keys
    have e : ∀ d : Dict α (ArmSt α), (d.mapKV fun _ r => zeroExp r).map (fun p => (p.1, p.2.exp)) =
        d.keys.map fun k => (k, Expect.val 0) := fun d => by
      simp only [Dict.mapKV, Dict.keys, List.map_map, Function.comp_def, zeroExp]
    exact (e s.st).trans (h.keys ▸ (e s'.st).symm)⟩

/-- the state `fit` leaves is determined by the configuration, up to the last Thompson draw -/
theorem fit_norm_congr (s s' : LP α) (b : Batch α) (w : Option Nat) (h : SameCfg s s') (hr : s.kind ≠ .random) :
    (s.fit b w).norm = (s'.fit b w).norm := by
  by_cases ht : s.kind = .thompson
  · have ht' : s'.kind = .thompson := h.kind ▸ ht
    rw [norm_thompson ((fit_kind ..).trans ht), norm_thompson ((fit_kind ..).trans ht'),
        ← fit_normT s b w ht, ← fit_normT s' b w ht', fit_discards s.normT s'.normT b w (sameConfig_normT s s' h) (by exact hr)]
  · rw [fit_discards s s' b w (h.toConfig ht) hr]

/-- **C07 / C05 (outputs).**  Whatever two policy objects with the same configuration have learned or
    drawn before, after `fit(D)` they answer a query identically: same expectations, same draws
    requested, same tape consumed. -/
theorem fit_then_predictExp_congr (s s' : LP α) (b : Batch α) (w : Option Nat) (m : Option Nat) (ctxs : List Vec)
    (own : Stream) (g : Rng) (h : SameCfg s s') :
    ((s.fit b w).predictExp m ctxs own g).2 = ((s'.fit b w).predictExp m ctxs own g).2 := by
  by_cases hr : s.kind = .random
  · -- `fit` is a no-op and the draws depend on the arm list only
    have hr' : s'.kind = .random := h.kind ▸ hr
    rw [fit_random s b w hr, fit_random s' b w hr', predictExp_random s m ctxs own g hr, predictExp_random s' m ctxs own g hr', h.arms]
  · exact predictExp_out_of_norm _ _ m ctxs own g (fit_norm_congr s s' b w h hr)

/-- a policy copy that has been `fit` (on anything) still has the configuration it started with -/
theorem sameConfig_fit (s : LP α) (b : Batch α) (w : Option Nat) (hts : s.kind ≠ .thompson) :
    SameConfig s (s.fit b w) :=
  (fit_sameCfg s b w).toConfig hts

theorem nhoodRow_sameCfg (le : Expect → Expect → Bool) (b : Bandit α) (isPredict : Bool) (lp : LP α)
    (i : Nat) (q : Vec) (ds : List Rat) (ks : List Nat) (g : Rng) :
    SameCfg lp (b.nhoodRow le isPredict lp i q ds ks g).1 := by
  by_cases h : (b.selectIdx q ds ks).1.length > 0
  · rw [nhoodRow_of_pos h]
    exact (fit_sameCfg lp _ _).trans (predictExp_sameCfg _ _ _ _ _)
  · rw [nhoodRow_of_empty h]
    exact SameCfg.refl lp

/-- after one row the worker's copy is still configuration-equal to what it was -/
theorem nhoodRow_config (le : Expect → Expect → Bool) (b : Bandit α) (isPredict : Bool) (lp : LP α)
    (i : Nat) (q : Vec) (ds : List Rat) (ks : List Nat) (g : Rng) (hts : lp.kind ≠ .thompson) :
    SameConfig lp (b.nhoodRow le isPredict lp i q ds ks g).1 :=
  (nhoodRow_sameCfg le b isPredict lp i q ds ks g).toConfig hts

/-- **C03 / C05 (from scratch, every learning policy).**  The outputs, tie flag, draws and requests of
    one query row do not depend on what the worker's policy copy was fit on or drew before. -/
theorem nhoodRow_congr (le : Expect → Expect → Bool) (b : Bandit α) (isPredict : Bool) (lp lp' : LP α)
    (i : Nat) (q : Vec) (ds : List Rat) (ks : List Nat) (g : Rng) (hc : SameCfg lp lp') :
    (b.nhoodRow le isPredict lp i q ds ks g).2 = (b.nhoodRow le isPredict lp' i q ds ks g).2 := by
  by_cases h : (b.selectIdx q ds ks).1.length > 0
  · have e : (b.nhoodAns lp i q ds ks g).2 = (b.nhoodAns lp' i q ds ks g).2 :=
      fit_then_predictExp_congr lp lp' _ _ _ _ _ g hc
    rw [nhoodRow_of_pos h, nhoodRow_of_pos h]
    simp only [congrArg Prod.fst e, congrArg Prod.snd e]
  · rw [nhoodRow_of_empty h, nhoodRow_of_empty h]

theorem chunkFold_local {le : Expect → Expect → Bool} {b : Bandit α} {isPredict : Bool} {o : Oracle} {start : Nat}
    {qs : List (Vec × Nat)} {lp lp' : LP α} {outs : List (RowOut α)} {ties : List Bool} {g : Rng} (hc : SameCfg lp lp') :
    (chunkFold le b isPredict o start qs (lp, outs, ties, g)).2 = (chunkFold le b isPredict o start qs (lp', outs, ties, g)).2 ∧
    SameCfg lp (chunkFold le b isPredict o start qs (lp, outs, ties, g)).1 := by
  -- both copies keep the configuration the first started with
  obtain ⟨⟨r1, _⟩, r2⟩ := chunkFold_sim (fun a a' => SameCfg lp a ∧ SameCfg lp a') id le le b b isPredict isPredict o start qs
    (fun p _ a a' g ⟨h1, h2⟩ =>
      ⟨⟨h1.trans (nhoodRow_sameCfg le b isPredict a _ _ _ _ g), h2.trans (nhoodRow_sameCfg le b isPredict a' _ _ _ _ g)⟩,
       (nhoodRow_congr le b isPredict a a' _ _ _ _ g (h1.symm.trans h2)).symm⟩) lp lp' outs ties g ⟨.refl lp, hc⟩
  rw [List.map_id, List.map_id] at r2
  exact ⟨r2.symm, r1⟩

/-- **C05 (row-locality, every learning policy).**  Two workers that start from policy copies with the same
    configuration — whatever those copies have been fit on or drew before — produce the same outputs, tie flags,
    draws and requests for the same rows. -/
theorem chunkFold_congr_all (le : Expect → Expect → Bool) (b : Bandit α) (isPredict : Bool) (o : Oracle) (start : Nat) :
    ∀ (qs : List (Vec × Nat)) (lp lp' : LP α) (outs : List (ExpDict α ⊕ (Option α × ExpDict α))) (ties : List Bool) (g : Rng),
      SameCfg lp lp' →
      (chunkFold le b isPredict o start qs (lp, outs, ties, g)).2 =
        (chunkFold le b isPredict o start qs (lp', outs, ties, g)).2 :=
  fun _ _ _ _ _ _ hc => (chunkFold_local hc).1

/-- **C05 (any split of a chunk, every learning policy).**  Handling rows `qs₁ ++ qs₂` with one worker
    gives the same outputs, tie flags, requests and tape as handling `qs₁` and then `qs₂` with a *fresh*
    copy of the policy — by induction every contiguous partition of the rows among workers gives the
    results of a single worker, for Thompson Sampling, Random and LinTS as well. -/
theorem chunk_split_all (le : Expect → Expect → Bool) (b : Bandit α) (isPredict : Bool) (o : Oracle) (start : Nat)
    (qs₁ qs₂ : List (Vec × Nat)) (g : Rng) :
    (chunkFold le b isPredict o start (qs₁ ++ qs₂) (b.lp, [], [], g)).2 =
      (chunkFold le b isPredict o start qs₂
        (b.lp, (chunkFold le b isPredict o start qs₁ (b.lp, [], [], g)).2.1,
               (chunkFold le b isPredict o start qs₁ (b.lp, [], [], g)).2.2.1,
               (chunkFold le b isPredict o start qs₁ (b.lp, [], [], g)).2.2.2)).2 := by
  rw [chunkFold_append]
  exact (chunkFold_local (chunkFold_local (.refl b.lp)).2.symm).1

/-- **C05 (row-locality).**  Two workers that start from configuration-equal policy copies — whatever
    those copies have been fit on before — produce the same outputs, tie flags, draws and requests
    for the same rows. -/
theorem chunkFold_congr (le : Expect → Expect → Bool) (b : Bandit α) (isPredict : Bool) (o : Oracle) (start : Nat) :
    ∀ (qs : List (Vec × Nat)) (lp lp' : LP α) (outs : List (ExpDict α ⊕ (Option α × ExpDict α))) (ties : List Bool) (g : Rng),
      SameConfig lp lp' → lp.kind ≠ .thompson → lp.kind ≠ .random →
      (chunkFold le b isPredict o start qs (lp, outs, ties, g)).2 =
        (chunkFold le b isPredict o start qs (lp', outs, ties, g)).2 :=
  fun qs lp lp' outs ties g hc _ _ => chunkFold_congr_all le b isPredict o start qs lp lp' outs ties g hc.toCfg

set_option linter.unusedVariables false in
/-- **C05 (any split of a chunk).**  Handling rows `qs₁ ++ qs₂` with one worker gives the same outputs,
    tie flags and generator state as handling `qs₁` and then `qs₂` with a *fresh* copy of the policy for
    the second part — so by induction every contiguous partition of the rows among workers gives the
    results of a single worker. -/
theorem chunk_split (le : Expect → Expect → Bool) (b : Bandit α) (isPredict : Bool) (o : Oracle) (start : Nat)
    (qs₁ qs₂ : List (Vec × Nat)) (g : Rng) (hts : b.lp.kind ≠ .thompson) (hr : b.lp.kind ≠ .random) :
    (chunkFold le b isPredict o start (qs₁ ++ qs₂) (b.lp, [], [], g)).2 =
      (chunkFold le b isPredict o start qs₂
        (b.lp, (chunkFold le b isPredict o start qs₁ (b.lp, [], [], g)).2.1,
               (chunkFold le b isPredict o start qs₁ (b.lp, [], [], g)).2.2.1,
               (chunkFold le b isPredict o start qs₁ (b.lp, [], [], g)).2.2.2)).2 :=
  chunk_split_all le b isPredict o start qs₁ qs₂ g

end Mab
