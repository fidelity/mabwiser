/-
  C06 — incremental training equals batch training.

  The core is an equality of full states: `fit` on a prefix followed by `partial_fit` on the remaining rows in any
  chunking yields *exactly* the state one `fit` on all rows yields (statistics, expectations, Softmax / Popularity
  shares, statuses, models, counters, configuration), for every policy kind, with or without binarizer.
-/
import MabModel.Props.C01
import MabModel.Core.Facade
open Py
set_option linter.unusedSectionVars false

namespace Mab
variable {α : Type} [DecidableEq α]

/-- the operation list "fit on the first chunk, partial_fit on every later chunk" -/
def chunkedOps (w : Option Nat) (c₀ : Batch α) (cs : List (Batch α)) : List (LPOp α) :=
  LPOp.fit c₀ w :: cs.map LPOp.partialFit

theorem spec_fit_partialFit (t : Spec α) (w : Option Nat) (c₀ c : Batch α) :
    (t.step (.fit c₀ w)).step (.partialFit c) = t.step (.fit (c₀ ++ c) w) := by
  simp only [Spec.step, List.length_append, rowsOf_append]

theorem spec_chunked (t : Spec α) (w : Option Nat) (c₀ : Batch α) (cs : List (Batch α)) :
    (t.run (chunkedOps w c₀ cs)).arms = t.arms ∧
    (t.run (chunkedOps w c₀ cs)).N = (c₀ ++ cs.flatten).length ∧
    ∀ a, (t.run (chunkedOps w c₀ cs)).log a = rowsOf (c₀ ++ cs.flatten) a := by
  have e : t.run (chunkedOps w c₀ cs) = t.step (.fit (c₀ ++ cs.flatten) w) := by
    rw [Spec.run, chunkedOps, List.foldl_cons, List.foldl_map]
    exact foldl_eq_of_append (fun c => t.step (.fit c w)) _ (spec_fit_partialFit t w) cs c₀
  rw [e]
  exact ⟨rfl, rfl, fun _ => rfl⟩

/-! ### one record: two training calls are one call on the concatenation -/

/-- the statistics of a record trained in two calls are those of one call on the concatenation —
    whatever the whole-policy passes did to the record in between -/
theorem rec_stats_append (kind : Kind) (n₁ N : Nat) (rs₁ rs₂ : List (Rat × Vec)) (M₁ : List Rat) (P₁ : Rat) (len : Nat)
    (in₁ : Bool) (r : ArmSt α) :
    (fitRec kind N rs₂ (postRec kind M₁ P₁ len in₁ false (fitRec kind n₁ rs₁ r))).mean = (fitRec kind N (rs₁ ++ rs₂) r).mean ∧
    (fitRec kind N rs₂ (postRec kind M₁ P₁ len in₁ false (fitRec kind n₁ rs₁ r))).sum = (fitRec kind N (rs₁ ++ rs₂) r).sum ∧
    (fitRec kind N rs₂ (postRec kind M₁ P₁ len in₁ false (fitRec kind n₁ rs₁ r))).cnt = (fitRec kind N (rs₁ ++ rs₂) r).cnt := by
  -- the passes in between are invisible in the learned part, which holds the three statistics
  have e : (fitRec kind N rs₂ (postRec kind M₁ P₁ len in₁ false (fitRec kind n₁ rs₁ r))).strip kind =
      (fitRec kind N (rs₁ ++ rs₂) r).strip kind := by
    rw [fitRec_strip, postRec_strip, ← fitRec_strip, fitRec_append]
  exact ⟨(congrArg ArmSt.mean e :), (congrArg ArmSt.sum e :), (congrArg ArmSt.cnt e :)⟩

theorem popMean_append (kind : Kind) (n₁ N : Nat) (rs₁ rs₂ : List (Rat × Vec)) (M₁ : List Rat) (P₁ : Rat) (len : Nat)
    (in₁ : Bool) (r : ArmSt α) :
    popMean (fitRec kind N rs₂ (postRec kind M₁ P₁ len in₁ false (fitRec kind n₁ rs₁ r))) =
      popMean (fitRec kind N (rs₁ ++ rs₂) r) := by
  obtain ⟨_, h2, h3⟩ := rec_stats_append kind n₁ N rs₁ rs₂ M₁ P₁ len in₁ r
  unfold popMean; rw [h2, h3]

/-- what the passes wrote into `exp` before the task does not survive the passes after it: Softmax and Popularity
    overwrite it, the other policies' passes do not write it at all -/
theorem postExp_postExp (kind : Kind) (M₁ M : List Rat) (P₁ P : Rat) (len : Nat) (F : Expect → Expect) (e : Expect)
    (m₁ s₁ m s : Rat) (c₁ c : Nat) :
    postExp kind M P len (F (postExp kind M₁ P₁ len e m₁ s₁ c₁)) m s c = postExp kind M P len (F e) m s c := by
  cases kind <;> rfl

/-- per record: train, whole-policy passes, train again, whole-policy passes = train once on the
    concatenation, whole-policy passes — given that the final passes read the same globals -/
theorem rec_append_post (kind : Kind) (N : Nat) (rs₂ : List (Rat × Vec)) (M₁ M : List Rat) (P₁ P : Rat) (len : Nat)
    (in₁ in₂ : Bool) (r1 : ArmSt α) (h1 : r1.trained = false) (h2 : r1.warm = false) (h3 : r1.warmBy = none) :
    postRec kind M P len in₂ true (fitRec kind N rs₂ (postRec kind M₁ P₁ len in₁ false r1)) =
      postRec kind M P len (in₁ || in₂) false (fitRec kind N rs₂ r1) := by
  -- from the inside out, reducing the projections of the record literal before it is copied into the next right-hand
  -- side: rewritten from the outside in, the term grows with the product of the sizes of the three equations
  rw [postRec_eq kind M₁, fitRec_eq]
  dsimp only
  rw [postRec_eq, fitRec_eq, postRec_eq]
  congr 1
  · exact postExp_postExp kind M₁ M P₁ P len (fitExp kind N rs₂ r1.sum r1.cnt r1.mean) r1.exp ..
  -- the three status flags, over the four values of `(in₁, in₂)`
  all_goals (simp only [h1, h2, h3]; cases in₁ <;> cases in₂ <;> rfl)

/-! ### the whole policy: `fit` then `partial_fit` is `fit` on the concatenation -/

/-- the record of an arm right after the per-arm tasks of `fit` -/
def fitStage (s : LP α) (bb : Batch α) (w : Option Nat) (a : α) (r : ArmSt α) : ArmSt α :=
  fitRec s.kind bb.length (rowsOf bb a) (resetRec s.kind (s.nfFor bb w) s.k1fixed r)

theorem fit_closed (s : LP α) (b : Batch α) (w : Option Nat) (h : s.WF) (hk : s.kind ≠ .random) :
    s.fit b w =
      { s with total := (s.binarize b).length, numFeatures := s.nfFor (s.binarize b) w,
               st := s.st.mapKV fun a r =>
                 postRec s.kind ((s.st.map fun p => (fitStage s (s.binarize b) w p.1 p.2).mean))
                   ((s.st.map fun p => popMean (fitStage s (s.binarize b) w p.1 p.2)).sum) s.arms.length
                   (decide (a ∈ s.arms ∧ a ∈ batchArms (s.binarize b))) false (fitStage s (s.binarize b) w a r) } := by
  rw [fit_eq_train s b w hk, train_closed _ _ _ ((resetFor_sameCfg ..).wf h)]
  simp only [LP.resetFor, Dict.mapKV, List.map_map, Function.comp_def, fitStage]
  rfl

theorem partialFit_closed (s : LP α) (b : Batch α) (h : s.WF) (hk : s.kind ≠ .random) :
    s.partialFit b =
      { s with total := s.total + (s.binarize b).length,
               st := s.st.mapKV fun a r =>
                 postRec s.kind ((s.st.map fun p => (fitRec s.kind (s.total + (s.binarize b).length) (rowsOf (s.binarize b) p.1) p.2).mean))
                   ((s.st.map fun p => popMean (fitRec s.kind (s.total + (s.binarize b).length) (rowsOf (s.binarize b) p.1) p.2)).sum)
                   s.arms.length (decide (a ∈ s.arms ∧ a ∈ batchArms (s.binarize b))) true
                   (fitRec s.kind (s.total + (s.binarize b).length) (rowsOf (s.binarize b) a) r) } := by
  rw [partialFit_eq_train s b hk, train_closed (s.bumpTotal _) _ _ ⟨h.keys, h.nodup⟩]
  rfl

/-- `train` twice is `train` once on the concatenation, from a state whose status flags are all clear (as `fit`
    leaves them before training): per record by `rec_append_post`, and the globals the final passes read — the
    means and the raw-mean total — are those of the one-call side by `rec_stats_append` -/
theorem train_append (x : LP α) (hx : x.WF) (hf : ∀ q ∈ x.st, q.2.trained = false ∧ q.2.warm = false ∧ q.2.warmBy = none)
    (B₁ B₂ : Batch α) (n : Nat) :
    ((x.train B₁ false).bumpTotal n).train B₂ true = (x.bumpTotal n).train (B₁ ++ B₂) false := by
  have hy : ((x.train B₁ false).bumpTotal n).WF := ((train_sameCfg x B₁ false).trans (bumpTotal_sameCfg ..)).wf hx
  have hmean := fun n₁ N rs₁ rs₂ M₁ P₁ len in₁ (r : ArmSt α) => (rec_stats_append x.kind n₁ N rs₁ rs₂ M₁ P₁ len in₁ r).1
  rw [train_closed _ B₂ true hy, train_closed (x.bumpTotal n) _ false ⟨hx.keys, hx.nodup⟩, train_closed x B₁ false hx]
  simp only [LP.bumpTotal, rowsOf_append, Dict.mapKV, List.map_map, Function.comp_def, hmean, popMean_append]
  congr 1
  refine List.map_congr_left fun q hq => ?_
  obtain ⟨f1, f2, f3⟩ := fitRec_flags x.kind x.total (rowsOf B₁ q.1) q.2
  obtain ⟨h1, h2, h3⟩ := hf q hq
  rw [← fitRec_append x.kind x.total, rec_append_post (h1 := f1.trans h1) (h2 := f2.trans h2) (h3 := f3.trans h3)]
  by_cases ha : q.1 ∈ x.arms <;> simp [ha, batchArms_append]

/-- **C06 (one step, full state).**  `fit` on `b₁` followed by `partial_fit` on `b₂` leaves *exactly*
    the state `fit` on `b₁ ++ b₂` leaves: every statistic, expectation, status flag, model, counter and
    configuration field — for every policy kind, with or without binarizer. -/
theorem fit_partialFit_append (s : LP α) (b₁ b₂ : Batch α) (w : Option Nat) (h : s.WF)
    (hw : s.kind.isLinear = true → w.isSome) :
    (s.fit b₁ w).partialFit b₂ = s.fit (b₁ ++ b₂) w := by
  by_cases hr : s.kind = .random
  · rw [fit_random s b₁ w hr, fit_random s _ w hr, partialFit_random s b₂ hr]
  have F := fit_sameCfg s b₁ w
  have hb₂ := F.opts.binarize b₂
  rw [partialFit_eq_train _ _ (F.kind ▸ hr), hb₂, fit_eq_train s b₁ w hr, fit_eq_train s _ w hr, binarize_append]
  generalize s.binarize b₁ = B₁
  generalize s.binarize b₂ = B₂
  have e : s.resetFor (B₁ ++ B₂) w = (s.resetFor B₁ w).bumpTotal B₂.length := by
    simp only [LP.resetFor, LP.bumpTotal, nfFor_append s B₁ B₂ w hw, List.length_append]
  rw [e]
  refine train_append _ ((resetFor_sameCfg s B₁ w).wf h) (fun q hq => ?_) B₁ B₂ _
  obtain ⟨q0, _, rfl⟩ := List.mem_map.mp hq
  exact resetRec_flags ..

/-- **C06 (full state, any chunking).**  From any well-formed state, `fit` on the first chunk followed by
    `partial_fit` on every later chunk — for every split into consecutive chunks, including empty and
    single-row chunks and chunks that omit arms — yields *the same state* as one `fit` on the
    concatenation.  Equal states answer every later sequence of calls identically from the same
    random-stream position (the model's operations are functions of the state, the arguments and the tape). -/
theorem chunked_eq_batch_full (s : LP α) (h : s.WF) (w : Option Nat) (hw : s.kind.isLinear = true → w.isSome) :
    ∀ (cs : List (Batch α)) (c₀ : Batch α), s.run (chunkedOps w c₀ cs) = s.fit (c₀ ++ cs.flatten) w := by
  intro cs c₀
  rw [LP.run, chunkedOps, List.foldl_cons, List.foldl_map]
  exact foldl_eq_of_append (fun c => s.fit c w) _ (fun c₀ c => fit_partialFit_append s c₀ c w h hw) cs c₀

/-- the same from every reachable state of a policy constructed with a duplicate-free arm list -/
theorem incremental_eq_batch_full (kind : Kind) (arms : List α) (k1 : Bool) (hn : arms.Nodup)
    (pre : List (LPOp α)) (w : Option Nat) (c₀ : Batch α) (cs : List (Batch α))
    (hw : kind.isLinear = true → w.isSome) :
    ((LP.init kind arms none k1).run pre).run (chunkedOps w c₀ cs) =
      ((LP.init kind arms none k1).run pre).run [.fit (c₀ ++ cs.flatten) w] := by
  have hwf := (cf_refines_log kind arms k1 hn pre).wf
  have hk : ((LP.init kind arms none k1).run pre).kind = kind := run_kind _ _
  rw [chunked_eq_batch_full _ hwf w (by rw [hk]; exact hw)]
  simp [LP.run, LP.stepOp]

/-- **C06 (learning policies).**  From any reachable state, training with `fit` on the first chunk
    and `partial_fit` on each later chunk — for every split into consecutive chunks, including empty
    chunks, single-row chunks and chunks in which some arms do not occur — leaves for every arm
    exactly the learned record that one `fit` on the concatenated rows leaves: sums, counts, means,
    UCB values with the same N, Thompson counters, and for linear policies the same `A`, `Xᵀy`,
    `A⁻¹` and coefficients (exact rational arithmetic; float rounding is outside the model). -/
theorem incremental_eq_batch (kind : Kind) (arms : List α) (k1 : Bool) (hn : arms.Nodup)
    (pre : List (LPOp α)) (w : Option Nat) (c₀ : Batch α) (cs : List (Batch α))
    (hw : kind.isLinear = true → w.isSome) :
    let s₀ := (LP.init kind arms none k1).run pre
    let inc := s₀.run (chunkedOps w c₀ cs)
    let bat := s₀.run [.fit (c₀ ++ cs.flatten) w]
    inc.arms = bat.arms ∧ (kind = .random ∨ inc.total = bat.total) ∧
    ∀ a ∈ inc.arms, (inc.st.get? a).map (·.strip kind) = (bat.st.get? a).map (·.strip kind) := by
  intro s₀ inc bat
  have e : inc = bat := incremental_eq_batch_full kind arms k1 hn pre w c₀ cs hw
  rw [e]
  exact ⟨rfl, Or.inr rfl, fun _ _ => rfl⟩

/-! ### at the facade -/

/-- the first `partial_fit` of a bandit is a `fit` (facade) -/
theorem first_partial_is_fit (b : Bandit α) (a : TrainArgs α) (o : Oracle) (g : Rng) (h : b.isFit = false) :
    b.train a true o g = b.train a false o g := by
  simp [Bandit.train, h]

/-- Radius / KNearest: the stored history after `fit c₀; partial_fit c₁; …` is the concatenation of all
    rows in order, the three columns aligned (no binarizer). -/
theorem neighbors_history (b : Bandit α) (r : Rat) (m : Metric) (pr : Option (List Rat)) (hnp : b.np = .radius r m pr)
    (hbz : b.lp.binz = none) (c₀ c₁ : Batch α) (o : Oracle) (g : Rng) :
    (((b.impFit c₀ o g).1).impPartialFit c₁ o g).1.hist = c₀ ++ c₁ := by
  simp [Bandit.impFit, Bandit.impPartialFit, hnp, npBinarize, hbz]

/-! non-vacuity: three chunks (one empty, one omitting an arm) against the batch, Softmax and LinUCB -/
example : ((LP.init (.softmax (1/2)) [1, 2, 3]).run (chunkedOps none
      [{ arm := 1, reward := 1 }, { arm := 2, reward := 0 }] [[], [{ arm := 3, reward := 2 }, { arm := 1, reward := 0 }]])).expDict =
    ((LP.init (.softmax (1/2)) [1, 2, 3]).run [.fit [{ arm := 1, reward := 1 }, { arm := 2, reward := 0 },
      { arm := 3, reward := 2 }, { arm := 1, reward := 0 }] none]).expDict := by decide +kernel

end Mab
