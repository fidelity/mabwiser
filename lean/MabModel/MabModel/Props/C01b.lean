/-
  C01b — C01 at the public API.  `cf_refines_log` (C01) is about histories of the learning policy's own operations.
  For a bandit without neighbourhood policy the facade hands the policy exactly the accepted calls — a rejected call
  contributes nothing, the first `partial_fit` is a `fit`, nothing is passed twice — so after any facade history of
  training calls the policy is the policy run on that trace, and every C01 statement about the trace is one about the
  facade history.
-/
import MabModel.Props.C01
import MabModel.Props.C08c
import MabModel.Props.C10
open Py

namespace Mab
variable {α : Type} [DecidableEq α]

/-- training-side facade calls (no new binarizer on `add_arm`: `LPOp.addArm` carries none) -/
def Op.isTraining : Op α → Bool
  | .fit _ => true
  | .partialFit _ => true
  | .addArm _ none _ => true
  | .removeArm _ => true
  | _ => false

/-- the learning-policy call an accepted facade call amounts to -/
def Bandit.lpOpOf (le : Expect → Expect → Bool) (b : Bandit α) (op : Op α) (o : Oracle) (g : Rng) : Option (LPOp α) :=
  if (b.step le op o g).2.1.err.isSome then none
  else
    match op with
    | .fit a => some (.fit a.toBatch (batchWidth a.toBatch))
    | .partialFit a =>
      if b.isFit then some (.partialFit a.toBatch) else some (.fit a.toBatch (batchWidth a.toBatch))
    | .addArm (.ok a) none _ => some (.addArm a)
    | .removeArm (.ok a) => some (.removeArm a)
    | _ => none

/-- the trace of learning-policy calls of a facade history -/
def Bandit.lpTrace (le : Expect → Expect → Bool) (b : Bandit α) : History α → List (LPOp α)
  | [] => []
  | (op, o, g) :: t =>
    (match b.lpOpOf le op o g with | some l => [l] | none => []) ++ Bandit.lpTrace le (b.step le op o g).1 t

theorem isSome_of_some {β : Type} (e : β) : (some e : Option β).isSome = true := rfl

theorem step_lp (le : Expect → Expect → Bool) (b : Bandit α) (op : Op α) (o : Oracle) (g : Rng)
    (hi : BInv b) (hnp : b.np = .none) (ht : op.isTraining = true) :
    (b.step le op o g).1.lp =
      (match b.lpOpOf le op o g with | some l => b.lp.stepOp l | none => b.lp) := by
  have harms : b.lp.arms = b.arms := (hi.lp_none hnp).2
  unfold Bandit.lpOpOf
  refine step_cases le b op o g (fun e _ => rfl) fun act hp => ?_
  simp only [perform_err, Option.isSome_none, Bool.false_eq_true, if_false]
  -- with `np = .none` written out, what an action does to the policy is the policy's own operation by unfolding
  obtain ⟨_, lp, np⟩ := b
  subst hnp
  cases hp with
  | fit a => rfl
  | firstFit a hf => cases hf; rfl
  | partialFit a hf => cases hf; rfl
  | addArm a bz c hm =>
    cases bz with
    | some f => cases ht
    | none => exact (if_neg (harms ▸ hm)).symm
  | removeArm a hm => exact (if_pos (harms ▸ hm)).symm
  | predict a | predictExp a | warmStart w => cases ht

theorem LP.run_optCons (s : LP α) (l : Option (LPOp α)) (ops : List (LPOp α)) :
    s.run ((match l with | some l => [l] | none => []) ++ ops) =
      (match l with | some l => s.stepOp l | none => s).run ops := by
  cases l <;> rfl

/-- **C01 at the facade.**  For a bandit without neighbourhood policy and any history of training-side
    calls — accepted or rejected, well-formed or not — the learning policy ends in the state obtained by
    running it on the trace of accepted calls. -/
theorem runHist_lp (le : Expect → Expect → Bool) (h : History α) : ∀ b : Bandit α, BInv b → b.np = .none →
    (∀ c ∈ h, c.1.isTraining = true) →
    (b.runHist le h).lp = b.lp.run (b.lpTrace le h) := by
  induction h with
  | nil => intro b _ _ _; rfl
  | cons c t ih =>
    intro b hi hnp ht
    obtain ⟨op, o, g⟩ := c
    obtain ⟨hop, ht⟩ := List.forall_mem_cons.mp ht
    simp only [Bandit.runHist, Bandit.lpTrace]
    rw [ih _ (binv_step le b op o g hi) ((step_np le b op o g).trans hnp) ht, step_lp le b op o g hi hnp hop,
      LP.run_optCons]

/-- after any facade history of training calls on a freshly constructed bandit, the learning policy is the
    freshly constructed policy run on the trace of accepted calls; C01's theorems about such runs
    (`cf_refines_log` and its corollaries) then apply to the facade history. -/
theorem facade_lp_is_trace (le : Expect → Expect → Bool) (kind : Kind) (arms : List α) (k1 : Bool) (hn : arms.Nodup)
    (h : History α) (ht : ∀ c ∈ h, c.1.isTraining = true) :
    ((Bandit.init arms kind .none none k1).runHist le h).lp =
      (LP.init kind arms none k1).run ((Bandit.init arms kind .none none k1).lpTrace le h) :=
  runHist_lp le h _ (binv_init arms kind .none none k1 hn) rfl ht

theorem facade_trace_arms (le : Expect → Expect → Bool) (kind : Kind) (arms : List α) (k1 : Bool) (hn : arms.Nodup)
    (h : History α) (ht : ∀ c ∈ h, c.1.isTraining = true) :
    ((LP.init kind arms none k1).run ((Bandit.init arms kind .none none k1).lpTrace le h)).arms =
      ((Bandit.init arms kind .none none k1).runHist le h).arms := by
  rw [← facade_lp_is_trace le kind arms k1 hn h ht]
  exact ((binv_reachable le arms kind .none none k1 hn h).lp_none (runHist_np le h _)).2

/-- **C01 at the public API, ε-greedy written out.**  After any facade history of training calls the
    stored expectation of every current arm is the running mean of the rewards the *accepted* calls
    delivered for that arm since its last fit / add (0 when there are none). -/
theorem facade_expectation_greedy (le : Expect → Expect → Bool) (eps : Rat) (arms : List α) (hn : arms.Nodup)
    (h : History α) (ht : ∀ c ∈ h, c.1.isTraining = true) (a : α)
    (ha : a ∈ ((Bandit.init arms (.greedy eps) .none none false).runHist le h).arms) :
    let log := ((Spec.init arms).run ((Bandit.init arms (.greedy eps) .none none false).lpTrace le h)).log a
    (((Bandit.init arms (.greedy eps) .none none false).runHist le h).lp.st.get? a).map (·.exp) =
      some (if log.length = 0 then .val 0 else .val (lmean log)) := by
  intro log
  rw [facade_lp_is_trace le (.greedy eps) arms false hn h ht]
  exact cf_expectation_greedy eps arms hn _ a (by rw [facade_trace_arms le _ arms false hn h ht]; exact ha)

/-- the same for Thompson Sampling: Beta parameters one plus successes / one plus failures of the
    accepted calls' rewards for the arm -/
theorem facade_thompson_counts (le : Expect → Expect → Bool) (arms : List α) (hn : arms.Nodup)
    (h : History α) (ht : ∀ c ∈ h, c.1.isTraining = true) (a : α)
    (ha : a ∈ ((Bandit.init arms .thompson .none none false).runHist le h).arms) :
    let log := ((Spec.init arms).run ((Bandit.init arms .thompson .none none false).lpTrace le h)).log a
    (((Bandit.init arms .thompson .none none false).runHist le h).lp.st.get? a).map (fun r => (r.succ, r.fail)) =
      some (1 + lsum log, 1 + ((log.length : Rat) - lsum log)) := by
  intro log
  rw [facade_lp_is_trace le .thompson arms false hn h ht]
  exact cf_thompson_counts arms hn _ a (by rw [facade_trace_arms le _ arms false hn h ht]; exact ha)

/-! ### with predictions interleaved

A `predict` / `predict_expectations` between training calls leaves the policy as it was, except that a
Thompson policy remembers its last draw (`LP.norm` forgets it, C10).  So with queries anywhere in the
history the facade's policy is still the policy run on the trace of accepted training calls, up to
that last draw. -/

def Op.isTrainingOrQuery : Op α → Bool
  | .predict _ => true
  | .predictExp _ => true
  | op => op.isTraining

theorem step_lp_norm (le : Expect → Expect → Bool) (b : Bandit α) (op : Op α) (o : Oracle) (g : Rng)
    (hi : BInv b) (hnp : b.np = .none) (ht : op.isTrainingOrQuery = true) :
    (b.step le op o g).1.lp.norm =
      (match b.lpOpOf le op o g with | some l => b.lp.stepOp l | none => b.lp).norm := by
  cases op with
  | predict a | predictExp a =>
    simp only [Bandit.lpOpOf, ite_self]
    exact congrArg Bandit.lp (query_norm le b a _ o g)
  | _ => exact congrArg LP.norm (step_lp le b _ o g hi hnp ht)

/-- **C01 at the facade, queries anywhere.** -/
theorem runHist_lp_queries (le : Expect → Expect → Bool) (h : History α) : ∀ b : Bandit α, BInv b → b.np = .none →
    (∀ c ∈ h, c.1.isTrainingOrQuery = true) →
    (b.runHist le h).lp.norm = (b.lp.run (b.lpTrace le h)).norm := by
  induction h with
  | nil => intro b _ _ _; rfl
  | cons c t ih =>
    intro b hi hnp ht
    obtain ⟨op, o, g⟩ := c
    obtain ⟨hop, ht⟩ := List.forall_mem_cons.mp ht
    simp only [Bandit.runHist, Bandit.lpTrace]
    rw [ih _ (binv_step le b op o g hi) ((step_np le b op o g).trans hnp) ht, LP.run_optCons]
    exact run_norm_congr _ _ _ (step_lp_norm le b op o g hi hnp hop)

/-! non-vacuity: first `partial_fit` (becomes a `fit`), a duplicate `add_arm` (rejected), a new arm, a
    `partial_fit` with mismatching lengths (rejected), a `partial_fit`: the trace has three calls and
    the facade's policy holds the documented means -/
def c01bHist : History Nat :=
  [(.partialFit { decisions := [0, 1, 0], rewards := [some 1, some 0, some 0], contexts := none }, {}, { tape := [] }),
   (.addArm (.ok 1) none, {}, { tape := [] }),
   (.addArm (.ok 2) none, {}, { tape := [] }),
   (.partialFit { decisions := [2, 2], rewards := [some 1], contexts := none }, {}, { tape := [] }),
   (.partialFit { decisions := [2, 0], rewards := [some 1, some 1], contexts := none }, {}, { tape := [] })]

example : ((Bandit.init [0, 1] (.greedy 0) .none none false).lpTrace (fun _ _ => true) c01bHist).length = 3 := by
  decide +kernel
example : (((Bandit.init [0, 1] (.greedy 0) .none none false).runHist (fun _ _ => true) c01bHist).lp.expDict) =
    [(0, .val (2/3)), (1, .val 0), (2, .val 1)] := by decide +kernel

end Mab
