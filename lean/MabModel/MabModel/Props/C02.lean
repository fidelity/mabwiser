/-
  C02 — linear policies are exact per-arm ridge regressions with the stated bonus (training with scale=False; a
  fitted scaler only standardises the row a prediction reads: `scaleRow_*`, `linucb_columns`; exact rational
  arithmetic; `np.linalg.inv` is replaced by an exact inverse whose certificate
  `A * Ainv = I` the driver re-checks on every fitted model).
-/
import MabModel.Props.C01
import MabModel.Py.Shape
open Py

namespace Mab
variable {α : Type} [DecidableEq α]

/-- the ridge record of an arm with observation log `log` (`d` features) -/
def ridgeOf (kind : Kind) (N : Nat) (d : Nat) (k1 : Bool) (log : List (Rat × Vec)) : ArmSt α :=
  fitRec kind N log (linInitRec kind.lam d k1 {})

omit [DecidableEq α] in
/-- the statistic of the specification (`statOf`) for a linear policy that knows its width -/
theorem fitRec_fresh_linear (kind : Kind) (hlin : kind.isLinear = true) (N d : Nat) (k1 : Bool) (log : List (Rat × Vec)) :
    fitRec kind N log (freshRec kind (some d) k1 : ArmSt α) = ridgeOf kind N d k1 log := by
  unfold ridgeOf freshRec; rw [hlin]

set_option linter.unusedVariables false in
/-- **C02 (normal equations).**  For the three linear policies, after *any* history of fit /
    partial_fit / add_arm / remove_arm (any split into fit + partial_fit, batches that omit the arm,
    arms added after fit) the model of every current arm holds
    `A = λI + Σ x xᵀ`, `Xᵀy = Σ y·x` over exactly that arm's rows since the last fit / add,
    `A⁻¹ = inv A`, `β = A⁻¹ Xᵀy` — and `A = λI`, `β = 0` for an arm never observed. -/
theorem lin_statistics (kind : Kind) (hlin : kind.isLinear = true) (arms : List α) (k1 : Bool) (hn : arms.Nodup)
    (ops : List (LPOp α)) (a : α) (ha : a ∈ ((LP.init kind arms none k1).run ops).arms) :
    ∃ r : ArmSt α, ((LP.init kind arms none k1).run ops).st.get? a = some r ∧
      let s := (LP.init kind arms none k1).run ops
      let spec : ArmSt α := fitRec kind ((Spec.init arms).run ops).N (((Spec.init arms).run ops).log a)
                              (freshRec kind s.numFeatures k1)
      r.A = spec.A ∧ r.Xty = spec.Xty ∧ r.Ainv = spec.Ainv ∧ r.beta = spec.beta ∧ r.inited = spec.inited ∧
      r.rngPriv = spec.rngPriv := by
  obtain ⟨r, hr, he⟩ := run_strip kind arms k1 hn ops a ha
  unfold ArmSt.strip at he
  exact ⟨r, hr, (congrArg ArmSt.A he :), (congrArg ArmSt.Xty he :), (congrArg ArmSt.Ainv he :), (congrArg ArmSt.beta he :),
    (congrArg ArmSt.inited he :), (congrArg ArmSt.rngPriv he :)⟩

/-- `_RidgeRegression.fit` / `partial_fit` on an arm's log in list operations: `A = λI + Σ x xᵀ`, `Xᵀy = Σ y·x`,
    `A⁻¹ = inv A`, `β = A⁻¹ Xᵀy`; an empty log leaves the initial record, whose inverse is `λI` (known finding K1)
    unless the repaired variant `k1` is on -/
theorem stat_linear (kind : Kind) (hlin : kind.isLinear = true) (N d : Nat) (k1 : Bool) (log : List (Rat × Vec)) :
    let r : ArmSt α := ridgeOf kind N d k1 log
    (log.length = 0 → r.A = msmul kind.lam (ident d) ∧ r.Xty = zeroVec d ∧ r.beta = zeroVec d ∧
        r.Ainv = (if k1 then msmul (1 / kind.lam) (ident d) else msmul kind.lam (ident d))) ∧
    (log.length ≠ 0 → r.A = addGram (msmul kind.lam (ident d)) (log.map (·.2)) ∧
        r.Xty = addXty (zeroVec d) log ∧ r.Ainv = invD r.A ∧ r.beta = mulVec r.Ainv r.Xty) := by
  intro r
  have hr : r = _ := fitRec_eq kind N log (linInitRec kind.lam d k1 {})
  constructor
  · intro h0
    obtain rfl : log = [] := List.eq_nil_of_length_eq_zero h0
    rw [hr]; simp [hlin, linInitRec, addGram, addXty, ifRows]
  · intro h1
    rw [hr]; simp [hlin, h1, linInitRec, ifRows]

/-- rows accumulate: training on `log₁` then `log₂` gives the Gram matrix of `log₁ ++ log₂` -/
theorem gram_accumulates (A : Mat) (x y : List Vec) : addGram A (x ++ y) = addGram (addGram A x) y :=
  addGram_append A x y

/-! ### known finding K1: the inverse of an unobserved arm is initialised with `λI` -/

theorem k1_counterexample :
    (linInitRec (4 : Rat) 1 false ({} : ArmSt Nat)).Ainv = [[4]] ∧
    (linInitRec (4 : Rat) 1 true ({} : ArmSt Nat)).Ainv = [[1 / 4]] ∧
    isInverse (linInitRec (4 : Rat) 1 true ({} : ArmSt Nat)).A (linInitRec (4 : Rat) 1 true ({} : ArmSt Nat)).Ainv = true ∧
    isInverse (linInitRec (4 : Rat) 1 false ({} : ArmSt Nat)).A (linInitRec (4 : Rat) 1 false ({} : ArmSt Nat)).Ainv = false := by
  decide +kernel

set_option linter.unusedSectionVars false in
/-- with `λ = 1` the two initialisations coincide (the deviation is invisible) -/
theorem k1_lambda_one (d : Nat) :
    (linInitRec (1 : Rat) d false ({} : ArmSt α)).Ainv = (linInitRec (1 : Rat) d true ({} : ArmSt α)).Ainv := by
  simp [linInitRec]

/-- an arm whose scaler is not fitted (scale=False, or an arm never trained) sees the raw query row -/
theorem scaleRow_unfitted (sc x : Vec) : scaleRow [] sc x = x := rfl

/-- with a fitted scaler every coordinate is `(x - mean) / scale` -/
theorem scaleRow_fitted (m : Rat) (mu : Vec) (s : Rat) (sc : Vec) (x0 : Rat) (x : Vec) :
    scaleRow (m :: mu) (s :: sc) (x0 :: x) = (x0 - m) / s :: List.zipWith (fun (p : Rat × Rat) s => (p.1 - p.2) / s) (List.zip x mu) sc := by
  simp [scaleRow]

/-- the per-arm column fold of `_vectorized_predict_context` for LinUCB: no draws, one symbolic value
    `x'·β + α·sqrt(x' A⁻¹ x'ᵀ)` per non-random row and arm, `x'` the row standardised with that arm's
    scaler (the row itself when `scale=False`) -/
theorem linucb_columns (s : LP α) (alpha lam : Rat) (hk : s.kind = .linUCB alpha lam) (rows : List Vec)
    (arms : List α) (acc : List (List Expect)) (g : Rng) :
    arms.foldl (fun (acc : List (List Expect) × Rng) a =>
      let r : ArmSt α := (s.st.get? a).getD {}
      match s.kind with
      | .linUCB alpha _ =>
        (acc.1 ++ [rows.map fun x0 => Expect.lin (dot (scaleRow r.mu r.sc x0) r.beta) alpha
                      (dot (vecMul (scaleRow r.mu r.sc x0) r.Ainv) (scaleRow r.mu r.sc x0))], acc.2)
      | .linTS alpha _ =>
        let d := r.beta.length
        let strm := if r.rngPriv then Stream.copyOf Stream.main else Stream.main
        let (bv, g) := acc.2.draw { stream := strm, kind := .mvn,
                                    params := r.beta.map Expect.val ++ (msmul (alpha * alpha) r.Ainv).flatten.map Expect.val,
                                    size := rows.length * d }
        let B := chunk d rows.length bv
        (acc.1 ++ [(List.zip rows B).map fun p => Expect.val (dot (scaleRow r.mu r.sc p.1) p.2)], g)
      | _ => (acc.1 ++ [rows.map fun x0 => Expect.val (dot (scaleRow r.mu r.sc x0) r.beta)], acc.2)) (acc, g) =
    (acc ++ arms.map (fun a => rows.map fun x0 =>
        Expect.lin (dot (scaleRow ((s.st.get? a).getD {}).mu ((s.st.get? a).getD {}).sc x0) ((s.st.get? a).getD {}).beta) alpha
          (dot (vecMul (scaleRow ((s.st.get? a).getD {}).mu ((s.st.get? a).getD {}).sc x0) ((s.st.get? a).getD {}).Ainv)
               (scaleRow ((s.st.get? a).getD {}).mu ((s.st.get? a).getD {}).sc x0))), g) := by
  rw [hk]
  exact foldl_append_col _ arms acc g

/-! ### shapes (regression guard for the repaired defect D2) -/

/-- with the samples reshaped to `x.shape`, row `i` of `sum(x * B, axis=1)` is `Σ_k x[i,k]·B[i,k]`,
    for every number of rows and features -/
theorem reshape_rowwise (x B : List (List Rat)) :
    sumAxis1 (mulBroadcast x (.mat B)) = List.zipWith (fun r br => (List.zipWith (· * ·) r br).sum) x B := by
  simp only [sumAxis1, mulBroadcast]
  induction x generalizing B with
  | nil => simp
  | cons r x ih => cases B with
    | nil => simp
    | cons br B => simp [ih]

/-- `np.squeeze` alone: with one feature and two rows the squeezed sample vector broadcasts across the
    contexts and every expectation becomes `x_i · Σ_j β_j` instead of `x_i · β_i` -/
theorem squeeze_counterexample :
    squeeze [[2], [3]] = .vec [2, 3] ∧
    sumAxis1 (mulBroadcastVec [[10], [100]] [2, 3]) = [50, 500] ∧
    sumAxis1 (mulBroadcast [[10], [100]] (.mat (reshapeRows 1 2 [2, 3]))) = [20, 300] := by
  decide +kernel

end Mab
