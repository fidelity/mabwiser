/-
  C03 — Radius and KNearest use exactly the observations in the neighbourhood.
-/
import MabModel.Props.C05b
import MabModel.Lemmas.ListPerm
open Py
set_option linter.unusedSectionVars false

namespace Mab
variable {α : Type} [DecidableEq α]

/-- **C03 (Radius).**  For an exactly computed metric the selected stored rows are exactly those whose
    distance to the query is at most the radius — boundary included — in stored order. -/
theorem radius_exact (b : Bandit α) (r : Rat) (metric : Metric) (pr : Option (List Rat)) (q : Vec)
    (ds : List Rat) (ks : List Nat) (hnp : b.np = .radius r metric pr) (hm : metric ≠ .oracle) (i : Nat) :
    i ∈ (b.selectIdx q ds ks).1 ↔
      ∃ h : i < b.hist.length, distExact metric (b.hist[i]).ctx q ≤ radiusBound metric r := by
  rw [selectIdx_radius hnp, if_neg hm]
  refine (mem_zipIdx_filterMap (fun d : Rat => d ≤ radiusBound metric r) id _ i).trans ?_
  simp only [List.length_map, List.getElem_map, id]
  exact ⟨fun ⟨j, hj, hd, e⟩ => e ▸ ⟨hj, hd⟩, fun ⟨h, hd⟩ => ⟨i, h, hd, rfl⟩⟩

/-- euclidean distances are compared through their squares: for `r ≥ 0`, `sqrt s ≤ r ↔ s ≤ r²` -/
theorem euclid_via_squares (s r : ℝ) (hr : 0 ≤ r) : Real.sqrt s ≤ r ↔ s ≤ r ^ 2 := by
  rw [Real.sqrt_le_left hr]

set_option linter.unusedVariables false in
/-- **C03 (KNearest, alternative tie-break).**  A supplied choice of rows is used only if it consists
    of `k` distinct stored rows none of which is farther from the query than the k-th smallest distance
    and such that every row left out is at least that far: any such set is a set of k nearest rows. -/
theorem knn_override_valid (b : Bandit α) (k : Nat) (metric : Metric) (q : Vec) (ds : List Rat) (ks : List Nat)
    (hnp : b.np = .knn k metric) (hm : metric = .oracle) (hne : ks ≠ [])
    (hused : (b.selectIdx q ds ks).1 = ks) (hdiff : ks ≠ (stableSortIdx ds).take k) :
    ks.length = k ∧ ks.Nodup ∧
      ∀ i ∈ ks, ∀ j, j < ds.length → j ∉ ks → ds.getD i 0 ≤ ds.getD j 0 := by
  simp only [Bandit.selectIdx, hnp, hm, if_true] at hused
  split at hused
  · next hv =>
    -- the supplied set was checked: the model's validity test is the claim, read off conjunct by conjunct
    obtain ⟨_, h1, h2, h3, h4⟩ := hv
    refine ⟨h1, h2, fun i hi j hj hjn => ?_⟩
    have a := of_decide_eq_true (List.all_eq_true.mp h3 i hi)
    exact (of_decide_eq_true (List.all_eq_true.mp h4 j (List.mem_range.mpr hj))).elim (fun c => absurd c hjn) (Rat.le_trans a.2)
  · exact absurd hused.symm hdiff

/-- the neighbourhood object's own expectation dictionary: one NaN per current arm -/
def Bandit.NanInv (b : Bandit α) : Prop := b.npExp.keys = b.arms ∧ ∀ p ∈ b.npExp, p.2 = Expect.nan

theorem nanInv_init (arms : List α) (kind : Kind) (r : Rat) (m : Metric) (pr : Option (List Rat)) :
    (Bandit.init arms kind (.radius r m pr)).NanInv := by
  refine ⟨by simp [Bandit.init], ?_⟩
  intro p hp
  simp only [Bandit.init, Dict.fromKeys, List.mem_map] at hp
  obtain ⟨a, _, rfl⟩ := hp
  rfl

/-- **C03 (empty neighbourhood).**  Under Radius (and likewise KNearest / LSHNearest, which share the
    code) the dictionary returned for a context without neighbours holds NaN for *every current arm*:
    the invariant survives `add_arm` (the new arm gets NaN, not 0) and `remove_arm`. -/
theorem nanInv_addArm (b : Bandit α) (a : α) (bz : Option (α → Rat → Rat)) (r : Rat) (m : Metric) (pr : Option (List Rat))
    (hnp : b.np = .radius r m pr) (ha : a ∉ b.arms) (h : b.NanInv) : (b.impAddArm a bz).NanInv := by
  obtain ⟨h1, h2⟩ := h
  simp only [Bandit.impAddArm, hnp]
  refine ⟨?_, ?_⟩
  · show (b.npExp.set a .nan).keys = b.arms ++ [a]
    rw [Dict.keys_set_not_mem _ _ _ (by rw [h1]; exact ha), h1]
  · intro p hp
    rcases Dict.mem_set _ _ _ _ hp with e | e
    · rw [e]
    · exact h2 p e

theorem nanInv_removeArm (b : Bandit α) (a : α) (r : Rat) (m : Metric) (pr : Option (List Rat))
    (hnp : b.np = .radius r m pr) (h : b.NanInv) : (b.impRemoveArm a).NanInv := by
  obtain ⟨h1, h2⟩ := h
  simp only [Bandit.impRemoveArm, hnp]
  refine ⟨?_, ?_⟩
  · show (b.npExp.pop a).keys = b.arms.filter (· != a)
    rw [Dict.keys_pop, h1]
  · intro p hp
    exact h2 p (Dict.mem_pop _ _ _ hp)

/-- with no row within the radius, `predict_expectations` returns that NaN dictionary -/
theorem empty_nhood_exps (le : Expect → Expect → Bool) (b : Bandit α) (lp : LP α) (i : Nat) (q : Vec)
    (ds : List Rat) (ks : List Nat) (g : Rng) (h : (b.selectIdx q ds ks).1 = []) :
    (b.nhoodRow le false lp i q ds ks g).2.1 = .inl b.npExp := by
  rw [nhoodRow_of_empty (by simp [h])]; rfl

set_option linter.unusedVariables false in
/-- **C03 (from scratch).**  The worker reuses one copy of the learning policy for all rows of its
    chunk; whatever that copy has been fit on before, the outputs for the next row are those of any
    other policy object with the same configuration — e.g. a freshly constructed one — fit on exactly
    the selected rows (`fit` discards everything: C07). -/
theorem nhood_from_scratch (le : Expect → Expect → Bool) (b : Bandit α) (isPredict : Bool) (lp lp' : LP α)
    (i : Nat) (q : Vec) (ds : List Rat) (ks : List Nat) (g : Rng)
    (hc : SameConfig lp lp') (hr : lp.kind ≠ .random) :
    (b.nhoodRow le isPredict lp i q ds ks g).2 = (b.nhoodRow le isPredict lp' i q ds ks g).2 :=
  nhoodRow_congr le b isPredict lp lp' i q ds ks g hc.toCfg

theorem sorted_pairs (ds : List Rat) :
    (ds.zipIdx.mergeSort fun (a b : Rat × Nat) => decide (a.1 ≤ b.1)).Pairwise (fun a b => a.1 ≤ b.1) := by
  have := List.pairwise_mergeSort (le := fun (a b : Rat × Nat) => decide (a.1 ≤ b.1))
    (by intro a b c h1 h2; simp only [decide_eq_true_eq] at *; exact le_trans h1 h2)
    (by intro a b; simp only [Bool.or_eq_true, decide_eq_true_eq]; exact le_total a.1 b.1) ds.zipIdx
  exact this.imp (by intro a b h; simpa using h)

theorem stableSortIdx_perm (ds : List Rat) : (stableSortIdx ds).Perm (List.range ds.length) := by
  rw [List.range_eq_range', ← List.zipIdx_map_snd 0 ds]
  exact (List.mergeSort_perm _ _).map _

theorem stableSortIdx_sorted (ds : List Rat) :
    (stableSortIdx ds).Pairwise fun i j => ds.getD i 0 ≤ ds.getD j 0 := by
  refine List.pairwise_map.mpr ((sorted_pairs ds).imp_of_mem fun {p p'} hp hp' h => ?_)
  -- every pair of the sorted list is a `(ds[i], i)`
  have e : ∀ p ∈ ds.zipIdx.mergeSort fun (a b : Rat × Nat) => decide (a.1 ≤ b.1), ds.getD p.2 0 = p.1 := fun p hp => by
    rw [List.getD_eq_getElem?_getD, List.mem_zipIdx_iff_getElem?.mp (List.mem_mergeSort.mp hp)]; rfl
  rwa [e p hp, e p' hp']

/-- **C03 (KNearest).**  For `k ≤ n` stored rows the selected set consists of `k` distinct rows, and no
    selected row is farther from the query than any row left out (ties at the k-th distance may be broken
    either way: see `knn_override_valid`). -/
theorem knn_valid (ds : List Rat) (k : Nat) (hk : k ≤ ds.length) :
    let sel := (stableSortIdx ds).take k
    sel.length = k ∧ sel.Nodup ∧ (∀ i ∈ sel, i < ds.length) ∧
    ∀ i ∈ sel, ∀ j, j < ds.length → j ∉ sel → ds.getD i 0 ≤ ds.getD j 0 :=
  take_sorted_perm_range (stableSortIdx_perm ds) (stableSortIdx_sorted ds) hk

end Mab
