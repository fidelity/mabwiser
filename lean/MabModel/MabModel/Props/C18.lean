/-
  C18 — results are independent of the data container type; inputs are never modified
  (the conversion logic of `MAB._convert_array` / `__convert_context`; container internals of numpy
  and pandas are runtime behaviour sampled by the harness).
-/
import MabModel.Props.C04
import MabModel.Core.Facade
open Py

namespace Mab

/-- the canonical value of a 2-D container: its rows (lists, C- or Fortran-ordered arrays, int or float
    dtype, non-contiguous views and DataFrames that *denote* the same matrix have the same rows) -/
def flattenRows (m : List (List Rat)) : List Rat := m.flatten

/-- the values a pandas Series holds for a matrix, row after row (a Series can stand for a matrix with one column
    or with one row only; `convertSeries` decides which) -/
def seriesOf (m : List (List Rat)) : List Rat := m.flatten

theorem flatten_singletons (vals : List Rat) : (vals.map fun v => [v]).flatten = vals :=
  List.flatMap_def.symm.trans (List.flatMap_singleton' vals)

theorem column_roundtrip (m : List (List Rat)) (h : ∀ r ∈ m, r.length = 1) :
    (m.flatten.map fun v => [v]) = m := by
  induction m with
  | nil => rfl
  | cons r m ih =>
    have hr : r.length = 1 := h r (by simp)
    match r, hr with
    | [x], _ =>
      simp only [List.flatten_cons, List.singleton_append, List.map_cons, List.cons.injEq, true_and]
      exact ih (fun q hq => h q (List.mem_cons_of_mem _ hq))

/-- **C18 (Series disambiguation, training).**  A training matrix with `n ≥ 1` rows passed as a Series —
    possible when it has one feature column, or one row — is reconstructed exactly: `n > 1` rows
    means a single column, one decision means a single row (also when that row has one feature). -/
theorem series_disambiguation_fit (m : List (List Rat)) (n : Nat) (hn : m.length = n) (hpos : 0 < n)
    (hshape : (1 < n → ∀ r ∈ m, r.length = 1)) :
    convertSeries (seriesOf m) true n 0 = m := by
  simp only [convertSeries, seriesOf, if_true]
  by_cases h1 : n > 1
  · simp only [h1, if_true]
    exact column_roundtrip m (hshape h1)
  · simp only [h1, if_false]
    have : n = 1 := by omega
    subst this
    match m, hn with
    | [r], _ => simp

/-- **C18 (Series disambiguation, prediction).**  With `d` features known from training, a Series is read
    as one column of `len` rows when `d = 1` and as one row of `d` features otherwise. -/
theorem series_disambiguation_predict (m : List (List Rat)) (d : Nat)
    (hshape : (d = 1 ∧ ∀ r ∈ m, r.length = 1) ∨ (d ≠ 1 ∧ ∃ r, m = [r] ∧ r.length = d)) :
    convertSeries (seriesOf m) false 0 d = m := by
  simp only [convertSeries, seriesOf, Bool.false_eq_true, if_false]
  rcases hshape with ⟨h1, h2⟩ | ⟨h1, r, hr, _⟩
  · simp only [h1, if_true]; exact column_roundtrip m h2
  · simp only [h1, if_false]; subst hr; simp

/-- **C18 (caller-owned parameter objects).**  In the World model with private copies no operation on
    any bandit ever writes the caller's `tree_parameters` dictionary or the shared default one
    (this is `noninterference_private`, restated for the caller's cell). -/
theorem caller_cells_untouched (ops : List WOp) (d0 : Nat) :
    (World.run { shared := false, defaultCell := d0 } ops).callerCell = none ∧
    (World.run { shared := false, defaultCell := d0 } ops).defaultCell = d0 :=
  ⟨(noninterference_private ops d0).1.2, (noninterference_private ops d0).2⟩

/-- the facade stores a *copy* of the caller's arm list: the model's `Bandit.init` takes the list by
    value, and `add_arm` / `remove_arm` return a new list -/
theorem arms_by_value {α : Type} [DecidableEq α] (arms : List α) (kind : Kind) (a : α) :
    ((Bandit.init arms kind .none).impAddArm a none).arms = arms ++ [a] ∧ (Bandit.init arms kind .none).arms = arms := by
  simp [Bandit.init, Bandit.impAddArm]

example : convertSeries [1, 2, 3] true 3 0 = [[1], [2], [3]] ∧ convertSeries [1, 2, 3] true 1 0 = [[1, 2, 3]] ∧
    convertSeries [1, 2, 3] false 0 1 = [[1], [2], [3]] ∧ convertSeries [1, 2, 3] false 0 3 = [[1, 2, 3]] := by
  decide +kernel

end Mab
