/-
  C06d — incremental training equals batch training, at the facade (no neighbourhood policy).

  `chunked_eq_batch_full` (C06) is about the policy's own `fit` / `partial_fit`.  Here the calls are the
  facade's: `MAB.fit(c₀)` followed by any number of `MAB.partial_fit(cᵢ)`, each accepted, leave the policy
  in exactly the state `fit` on the concatenated batches leaves it in.
-/
import MabModel.Props.C01b
import MabModel.Props.C06
open Py

namespace Mab
variable {α : Type} [DecidableEq α]

def partialCalls (ps : List (TrainArgs α × Oracle × Rng)) : History α :=
  ps.map fun p => (.partialFit p.1, p.2.1, p.2.2)

theorem accepted_partial (le : Expect → Expect → Bool) (b : Bandit α) (a : TrainArgs α) (o : Oracle) (g : Rng)
    (hnp : b.np = .none) (hf : b.isFit = true) (hacc : (b.step le (.partialFit a) o g).2.1.err.isSome = false) :
    (b.step le (.partialFit a) o g).1.isFit = true ∧
    b.lpOpOf le (.partialFit a) o g = some (.partialFit a.toBatch) := by
  refine ⟨?_, by simp [Bandit.lpOpOf, hacc, hf]⟩
  revert hacc
  refine step_cases le b (.partialFit a) o g (fun e _ hacc => nomatch hacc) fun act hp _ => ?_
  cases hp with
  | firstFit a hf' => exact absurd hf (hf' ▸ Bool.false_ne_true)
  | partialFit a _ => simp only [Bandit.perform, Bandit.impPartialFit, hnp, hf]

theorem accepted_fit (le : Expect → Expect → Bool) (b : Bandit α) (a : TrainArgs α) (o : Oracle) (g : Rng)
    (hacc : (b.step le (.fit a) o g).2.1.err.isSome = false) :
    (b.step le (.fit a) o g).1.isFit = true ∧
    b.lpOpOf le (.fit a) o g = some (.fit a.toBatch (batchWidth a.toBatch)) := by
  refine ⟨?_, by simp [Bandit.lpOpOf, hacc]⟩
  revert hacc
  exact step_cases le b (.fit a) o g (fun e _ hacc => nomatch hacc) fun act hp _ => by cases hp; rfl

def Bandit.allAccepted (le : Expect → Expect → Bool) (b : Bandit α) (h : History α) : Prop :=
  ∀ r ∈ b.runOuts le h, r.1.err.isSome = false

theorem allAccepted_cons {le : Expect → Expect → Bool} {b : Bandit α} {op : Op α} {o : Oracle} {g : Rng}
    {t : History α} (h : b.allAccepted le ((op, o, g) :: t)) :
    (b.step le op o g).2.1.err.isSome = false ∧ (b.step le op o g).1.allAccepted le t :=
  List.forall_mem_cons.mp h

theorem partialCalls_trace (le : Expect → Expect → Bool) (ps : List (TrainArgs α × Oracle × Rng)) :
    ∀ b : Bandit α, b.np = .none → b.isFit = true → b.allAccepted le (partialCalls ps) →
    b.lpTrace le (partialCalls ps) = ps.map fun p => LPOp.partialFit p.1.toBatch := by
  induction ps with
  | nil => intro b _ _ _; rfl
  | cons p ps ih =>
    intro b hnp hf hacc
    obtain ⟨a, o, g⟩ := p
    obtain ⟨h0, hacc'⟩ := allAccepted_cons (t := partialCalls ps) hacc
    obtain ⟨hf', hop⟩ := accepted_partial le b a o g hnp hf h0
    have := ih _ ((step_np le b _ o g).trans hnp) hf' hacc'
    simp only [partialCalls, List.map_cons, Bandit.lpTrace] at this ⊢
    rw [hop, this]
    rfl

/-- **C06 at the facade.**  `fit(c₀)` then `partial_fit(c₁)`, …, `partial_fit(cₙ)` through the public API,
    every call accepted, from any reachable bandit without neighbourhood policy: the policy is in the state
    of one `fit` on `c₀ ++ c₁ ++ … ++ cₙ` (every statistic, expectation, flag, model and counter). -/
theorem facade_incremental_eq_batch (le : Expect → Expect → Bool) (b : Bandit α) (hi : BInv b) (hnp : b.np = .none)
    (a₀ : TrainArgs α) (o₀ : Oracle) (g₀ : Rng) (ps : List (TrainArgs α × Oracle × Rng))
    (hw : b.lp.kind.isLinear = true → (batchWidth a₀.toBatch).isSome)
    (hacc : b.allAccepted le ((.fit a₀, o₀, g₀) :: partialCalls ps)) :
    (b.runHist le ((.fit a₀, o₀, g₀) :: partialCalls ps)).lp =
      b.lp.fit (a₀.toBatch ++ (ps.map fun p => p.1.toBatch).flatten) (batchWidth a₀.toBatch) := by
  have hwf := (hi.lp_none hnp).1
  have htr : ∀ c ∈ ((Op.fit a₀, o₀, g₀) :: partialCalls ps), c.1.isTraining = true :=
    List.forall_mem_cons.mpr ⟨rfl, List.forall_mem_map.mpr fun _ _ => rfl⟩
  rw [runHist_lp le _ b hi hnp htr]
  obtain ⟨h0, hacc'⟩ := allAccepted_cons hacc
  obtain ⟨hf', hop⟩ := accepted_fit le b a₀ o₀ g₀ h0
  have htrace := partialCalls_trace le ps _ ((step_np le b _ o₀ g₀).trans hnp) hf' hacc'
  simp only [Bandit.lpTrace]
  rw [hop, htrace]
  have := chunked_eq_batch_full b.lp hwf (batchWidth a₀.toBatch) hw (ps.map fun p => p.1.toBatch) a₀.toBatch
  simp only [chunkedOps, List.map_map] at this
  simpa [Function.comp_def] using this

/-! non-vacuity: the hypotheses are met by a concrete history (fit + two partial fits, one empty) -/
def c06dFit : TrainArgs Nat := { decisions := [0, 1, 0], rewards := [some 1, some 0, some 0], contexts := none }
def c06dParts : List (TrainArgs Nat × Oracle × Rng) :=
  [({ decisions := [], rewards := [], contexts := none }, {}, { tape := [] }),
   ({ decisions := [1, 0], rewards := [some 1, some 1], contexts := none }, {}, { tape := [] })]

example : ∀ r ∈ (Bandit.init [0, 1] (.greedy 0) .none none false).runOuts (fun _ _ => true)
    ((.fit c06dFit, {}, { tape := [] }) :: partialCalls c06dParts), r.1.err.isSome = false := by decide +kernel

end Mab
