/-
  C16 — Simulator bookkeeping is a faithful account of the data.
  (`train_test_split` and the float arithmetic `int(n * (1 - test_size))` produce the realised split,
  which is an input here.)
-/
import MabModel.Core.Simulator
import MabModel.Lemmas.ListFold
import Mathlib.Algebra.Order.Field.Basic
import Mathlib.Algebra.Order.Ring.Rat
import Mathlib.Algebra.Order.BigOperators.Group.List
open Py

namespace Mab
variable {α : Type} [DecidableEq α]

/-- **C16 (ordered split).**  Train and test indices are the first `k` and the last `n - k` rows: together
    all rows in order, nothing twice. -/
theorem split_partition (n k : Nat) (h : k ≤ n) :
    (orderedSplit n k).1 ++ (orderedSplit n k).2 = List.range n ∧ (orderedSplit n k).2.length = n - k := by
  simp only [orderedSplit]
  constructor
  · have : List.range k = (List.range n).take k := by
      rw [List.take_range]; simp [Nat.min_eq_left h]
    rw [this, List.take_append_drop]
  · simp

set_option linter.unusedVariables false in
/-- any duplicate-free index list and its complement partition the rows -/
theorem random_split_partition (n : Nat) (test : List Nat) (hnd : test.Nodup) (hin : ∀ i ∈ test, i < n) :
    ∀ i, i < n → (i ∈ test ∨ i ∈ (List.range n).filter (fun j => j ∉ test)) ∧
      ¬ (i ∈ test ∧ i ∈ (List.range n).filter (fun j => j ∉ test)) := by
  intro i hi
  constructor
  · by_cases h : i ∈ test
    · exact Or.inl h
    · exact Or.inr (by simp [hi, h])
  · rintro ⟨h1, h2⟩
    simp at h2
    exact h2.2 h1

theorem flatten_slices_eq {β : Type} (b : Nat) : ∀ (m : Nat) (l : List β), l.length ≤ m * b →
    ((List.range m).map fun i => (l.drop (i * b)).take b).flatten = l := by
  intro m
  induction m with
  | zero => intro l h; rw [List.eq_nil_of_length_eq_zero (l := l) (Nat.le_zero.mp (Nat.zero_mul b ▸ h))]; rfl
  | succ m ih =>
    intro l h
    -- the first slice is `take b`, the others are the slices of `drop b`
    have hshift : ((List.range m).map ((fun i => (l.drop (i * b)).take b) ∘ Nat.succ)) =
        ((List.range m).map fun i => ((l.drop b).drop (i * b)).take b) :=
      List.map_congr_left fun i _ => by
        rw [Function.comp, List.drop_drop, Nat.succ_mul, Nat.add_comm]
    rw [List.range_succ_eq_map, List.map_cons, List.flatten_cons, List.map_map, hshift,
      ih (l.drop b) (by rw [List.length_drop]; rw [Nat.succ_mul] at h; omega), Nat.zero_mul, List.drop_zero]
    exact List.take_append_drop b l

/-- a batch `[s, min (s + b) (n + 1))` of a list of length `n` holds what `take b` after `drop s` holds:
    the clamp at `n + 1` never cuts shorter than the end of the list does -/
theorem batch_clamp (s b n : Nat) : min (min (s + b) (n + 1) - s) (n - s) = min b (n - s) := by
  rcases Nat.le_total (s + b) (n + 1) with h | h
  · rw [Nat.min_eq_left h, Nat.add_sub_cancel_left]
  · rw [Nat.min_eq_right h, Nat.min_eq_right (Nat.sub_le_sub_right (Nat.le_succ n) s),
      Nat.min_eq_right (by omega)]

/-- **C16 (batches).**  For every test size `n ≥ 1` and batch size `b ≥ 1` the online loop visits every
    test row exactly once, in order — also when `b` does not divide `n` (the last batch is shorter). -/
theorem batches_cover_once {β : Type} (l : List β) (b : Nat) (hb : 0 < b) :
    ((batchBounds l.length b).map (sliceOf l)).flatten = l := by
  rw [batchBounds, List.map_map]
  have hslice : ∀ i, (sliceOf l ∘ fun i => (i * b, min (i * b + b) (l.length + 1))) i = (l.drop (i * b)).take b :=
    fun i => List.take_eq_take_iff.mpr (by rw [List.length_drop]; exact batch_clamp (i * b) b l.length)
  rw [List.map_congr_left (fun i _ => hslice i)]
  refine flatten_slices_eq b _ l ?_
  -- the `⌈n / b⌉` batches reach the end of the list: `n ≤ ((n + b - 1) / b) * b`
  have := Nat.lt_div_mul_add (a := l.length + b - 1) hb
  generalize (l.length + b - 1) / b * b = t at this ⊢
  omega

theorem getStats_count_sum (rs : List Rat) : (getStats rs).count = rs.length ∧ (getStats rs).sum = rs.sum := by
  unfold getStats
  by_cases h : rs.length = 0
  · have : rs = [] := List.eq_nil_of_length_eq_zero h
    subst this; simp
  · simp [h]

/-- **C16 (train + test = total).**  Counts and sums of an arm's rewards over any two row sets that
    together are a rearrangement of all rows add up to the totals. -/
theorem stats_additive (total train test : List Rat) (h : total.Perm (train ++ test)) :
    (getStats total).count = (getStats train).count + (getStats test).count ∧
    (getStats total).sum = (getStats train).sum + (getStats test).sum := by
  simp only [getStats_count_sum]
  exact ⟨by rw [h.length_eq, List.length_append], by rw [h.sum_eq, List.sum_append]⟩

theorem listMin_le (x : Rat) (xs : List Rat) : ∀ y ∈ x :: xs, listMin (x :: xs) ≤ y := by
  obtain ⟨i1, i2, _⟩ := foldl_keep_first (fun y m : Rat => m ≤ y) (fun a b => le_total b a)
    (fun _ _ _ h1 h2 => le_trans h2 h1) xs x
  simp only [listMin, ite_lt_eq_ite_le]
  exact List.forall_mem_cons.mpr ⟨i1, i2⟩

theorem le_listMaxR (x : Rat) (xs : List Rat) : ∀ y ∈ x :: xs, y ≤ listMaxR (x :: xs) := by
  obtain ⟨i1, i2, _⟩ := foldl_keep_first (fun y m : Rat => y ≤ m) le_total (fun _ _ _ => le_trans) xs x
  simp only [listMaxR, ite_lt_eq_ite_le]
  exact List.forall_mem_cons.mpr ⟨i1, i2⟩

theorem min_le_mean_le_max (rs : List Rat) (h : rs ≠ []) :
    (getStats rs).min ≤ (getStats rs).mean ∧ (getStats rs).mean ≤ (getStats rs).max := by
  cases rs with
  | nil => exact absurd rfl h
  | cons x xs =>
    have s1 := (nsmul_eq_mul _ _).symm.trans_le (List.card_nsmul_le_sum (x :: xs) _ (listMin_le x xs))
    have s2 := (List.sum_le_card_nsmul (x :: xs) _ (le_listMaxR x xs)).trans_eq (nsmul_eq_mul _ _)
    have hpos : (0 : Rat) < ((x :: xs).length : Rat) := Nat.cast_pos.mpr (Nat.succ_pos _)
    rw [getStats, if_neg (show (x :: xs).length ≠ 0 from Nat.succ_ne_zero _)]
    exact ⟨(le_div_iff₀ hpos).mpr ((mul_comm _ _).trans_le s1), (div_le_iff₀ hpos).mpr (s2.trans_eq (mul_comm _ _))⟩

example : batchBounds 7 3 = [(0, 3), (3, 6), (6, 8)] := by decide +kernel

end Mab
