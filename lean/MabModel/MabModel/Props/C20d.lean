/-
  C20 (continued) — predict_expectations and predict commute with a one-to-one relabelling of the arms, for every
  learning policy (draws, requests and final state included).
-/
import MabModel.Props.C20b
open Py

namespace Mab
variable {α β : Type} [DecidableEq α] [DecidableEq β]

variable (f : α → β) (finv : β → α) (hinv : ∀ a, finv (f a) = a)

section
omit [DecidableEq α] [DecidableEq β]

theorem zip_renameD {γ : Type} (l : List α) (vs : List γ) :
    List.zip (l.map f) vs = (List.zip l vs).map fun p => (f p.1, p.2) := List.zip_map_left

theorem headD_renameD (o : Out (ExpDict α)) :
    (o.map (renameD f)).toList.headD [] = renameD f (o.toList.headD []) := Out.toList_headD_map o (renameD f) []

theorem zipRows_relabel (keys : List α) (w size : Nat) (vals : List Rat) :
    zipRows (keys.map f) w size vals = (zipRows keys w size vals).map (renameD f) := by
  simp only [zipRows, List.map_map, Function.comp_def, zip_renameD, renameD]

theorem greedyExplore_relabel (arms : List α) (own : Stream) (g : Rng) :
    greedyExplore (arms.map f) own g = Prod.map (renameD f) id (greedyExplore arms own g) := by
  unfold greedyExplore
  rw [List.foldl_map]
  refine List.foldl_hom (init := ([], g)) (Prod.map (renameD f) id) fun acc a => ?_
  simp only [Prod.map, renameD, id_eq, List.map_append, List.map_cons, List.map_nil]

theorem assembleRows_relabel (arms : List α) (randRows : List (List Rat)) (cols : List (List Expect)) :
    ∀ (mask : List Bool) (ri ni : Nat),
      assembleRows (arms.map f) randRows cols mask ri ni = (assembleRows arms randRows cols mask ri ni).map (renameD f) := by
  intro mask
  induction mask with
  | nil => intro ri ni; rfl
  | cons b mask ih =>
    intro ri ni
    cases b <;> simp only [assembleRows, List.map_cons, ih, zip_renameD, renameD]

end

theorem predictExp_relabel_greedy (s : LP α) (e : Rat) (hk : s.kind = .greedy e) (m : Option Nat) (ctxs : List Vec) (own : Stream) (g : Rng) :
    (s.relabel f finv).predictExp m ctxs own g =
      ((s.predictExp m ctxs own g).1.relabel f finv, (s.predictExp m ctxs own g).2.1.map (renameD f), (s.predictExp m ctxs own g).2.2) := by
  rw [predictExp_greedy (s.relabel f finv) m ctxs own g e hk, predictExp_greedy s m ctxs own g e hk, relabel_arms,
    List.length_map, greedyExplore_relabel, expDict_relabel f finv]
  -- one row: explore or exploit (the inner `if` on the draw), each branch renamed; several rows: left for below
  refine ite_hom (T := fun x : LP α × Out (ExpDict α) × Rng => (x.1.relabel f finv, x.2.1.map (renameD f), x.2.2)) Iff.rfl
    (by split <;> rfl) (Prod.ext rfl (Prod.ext ?_ rfl))
  simp only [Out.map, List.map_map, Function.comp_def, zip_renameD, renameD,
    apply_ite (List.map fun p : α × Expect => (f p.1, p.2))]

include hinv

theorem getD_relabel (s : LP α) (a : α) :
    ((s.relabel f finv).st.get? (f a)).getD {} = relabelRec f ((s.st.get? a).getD {}) := by
  rw [relabel_get? f finv hinv]
  cases s.st.get? a <;> rfl

theorem thompsonCols_relabel (s : LP α) (size : Nat) (own : Stream) (g : Rng) :
    (s.relabel f finv).thompsonCols size own g =
      (Dict.rekey f id (s.thompsonCols size own g).1, (s.thompsonCols size own g).2) := by
  unfold LP.thompsonCols
  rw [show (s.relabel f finv).st.keys = s.st.keys.map f from Dict.keys_rekey f _ s.st, List.foldl_map]
  refine List.foldl_hom (init := ([], g)) (fun x : List (α × List Rat) × Rng => (Dict.rekey f id x.1, x.2)) fun acc a => ?_
  simp only [getD_relabel f finv hinv, Dict.rekey_append]
  rfl

theorem thompsonRows_relabel (arms : List α) (cols : List (α × List Rat)) (size : Nat) :
    thompsonRows (arms.map f) (Dict.rekey f id cols) size = (thompsonRows arms cols size).map (renameD f) := by
  simp only [thompsonRows, Dict.rekey, id_eq, List.map_map, renameD, Function.comp_def, List.find?_map, Option.map_map,
    (Function.LeftInverse.injective hinv).eq_iff]

/-- the model of the arm `f a` is the model of `a`, so the columns are the same -/
theorem linearCols_relabel (s : LP α) (xs : List Vec) (own : Stream) (g : Rng) :
    (s.relabel f finv).linearCols xs own g = s.linearCols xs own g := by
  unfold LP.linearCols
  simp only [relabel_arms, relabel_kind, List.foldl_map, getD_relabel f finv hinv]
  rfl

theorem predictExp_relabel_thompson (s : LP α) (hk : s.kind = .thompson) (m : Option Nat) (ctxs : List Vec) (own : Stream) (g : Rng) :
    (s.relabel f finv).predictExp m ctxs own g =
      ((s.predictExp m ctxs own g).1.relabel f finv, (s.predictExp m ctxs own g).2.1.map (renameD f), (s.predictExp m ctxs own g).2.2) := by
  rw [predictExp_thompson (s.relabel f finv) m ctxs own g hk, predictExp_thompson s m ctxs own g hk,
    thompsonCols_relabel f finv hinv, relabel_arms, thompsonRows_relabel f finv hinv, oneOrMany_map (renameD f) rfl,
    show ∀ ds : List (ExpDict α), (ds.map (renameD f)).getLastD [] = renameD f (ds.getLastD []) from
      fun _ => List.getLastD_map (f := renameD f) (a := [])]
  -- the remembered row: the arm `f a` finds under its name what `a` finds
  refine Prod.ext (relabel_mapKV f finv s fun a r _ => ?_) rfl
  rw [renameD_eq, Dict.get?_rekey_id (Function.LeftInverse.injective hinv)]
  rfl

theorem predictExp_relabel_linear (s : LP α) (hlin : s.kind.isLinear = true) (m : Option Nat) (ctxs : List Vec) (own : Stream) (g : Rng) :
    (s.relabel f finv).predictExp m ctxs own g =
      ((s.predictExp m ctxs own g).1.relabel f finv, (s.predictExp m ctxs own g).2.1.map (renameD f), (s.predictExp m ctxs own g).2.2) := by
  rw [predictExp_linear (s.relabel f finv) m ctxs own g hlin, predictExp_linear s m ctxs own g hlin]
  simp only [relabel_arms, List.length_map, linearCols_relabel f finv hinv, show (s.relabel f finv).linEps = s.linEps from rfl,
    assembleRows_relabel, Out.unwrap_map (renameD f) rfl]

/-- **C20 (relabelling, `predict_expectations`).**  For every learning policy, every batch of contexts and
    every tape: the relabelled policy returns the same values under the renamed keys (same order), issues
    the same sampler requests, consumes the same draws and ends in the relabelled state. -/
theorem predictExp_relabel (s : LP α) (m : Option Nat) (ctxs : List Vec) (own : Stream) (g : Rng) :
    (s.relabel f finv).predictExp m ctxs own g =
      ((s.predictExp m ctxs own g).1.relabel f finv, (s.predictExp m ctxs own g).2.1.map (renameD f), (s.predictExp m ctxs own g).2.2) :=
  s.kind_cases (fun e hk => predictExp_relabel_greedy f finv s e hk m ctxs own g)
    (fun a hk => by
      rw [predictExp_ucb (s.relabel f finv) m ctxs own g a hk, predictExp_ucb s m ctxs own g a hk, expDict_relabel f finv,
        ← oneOrMany_map (renameD f) rfl, List.map_replicate]
      rfl)
    (fun hk => by
      rw [predictExp_dirichlet (s.relabel f finv) m ctxs own g hk, predictExp_dirichlet s m ctxs own g hk,
        vals_relabel f finv s (·.exp) (·.exp) fun _ => rfl, relabel_st, Dict.keys_rekey, Dict.length_rekey, zipRows_relabel,
        oneOrMany_map (renameD f) rfl])
    (fun hk => predictExp_relabel_thompson f finv hinv s hk m ctxs own g)
    (fun hk => by
      rw [predictExp_random (s.relabel f finv) m ctxs own g hk, predictExp_random s m ctxs own g hk, relabel_arms,
        List.length_map, zipRows_relabel, oneOrMany_map (renameD f) rfl])
    (fun hk => predictExp_relabel_linear f finv hinv s hk m ctxs own g)

/-- **C20 (relabelling, `predict`).**  `predict` of the relabelled policy returns the renamed arm. -/
theorem predict_relabel (le : Expect → Expect → Bool) (s : LP α) (m : Option Nat) (ctxs : List Vec) (own : Stream) (g : Rng) :
    (s.relabel f finv).predict le m ctxs own g =
      ((s.predict le m ctxs own g).1.relabel f finv,
       (s.predict le m ctxs own g).2.1.map (fun p => (p.1.map f, renameD f p.2)),
       (s.predict le m ctxs own g).2.2) := by
  unfold LP.predict
  rw [predictExp_relabel f finv hinv]
  refine Prod.ext rfl (Prod.ext ?_ rfl)
  show ((s.predictExp m ctxs own g).2.1.map (renameD f)).map _ = ((s.predictExp m ctxs own g).2.1.map _).map _
  simp only [Out.map_map, renameD, argmaxFirst_relabel]

end Mab
