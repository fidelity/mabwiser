/-
  C12c — known finding K5 as a closed, kernel-decided witness in the (faithful) model.

  Clusters: `add_arm(a)` of a label that already has rows in the stored history reports 0 for `a`
  although those observations lie in the query's cluster; they count again after the next `partial_fit`.
-/
import MabModel.Lemmas.History
open Py

namespace Mab

def k5Le : Expect → Expect → Bool := fun _ _ => true
def k5Bandit : Bandit Nat := Bandit.init [0, 1] (.greedy 0) (.clusters 1) none false
/-- fit three rows (arm 1 observed twice, mean 1), all in the single cluster; remove arm 1; add it back -/
def k5Hist : History Nat :=
  [(.fit { decisions := [0, 1, 1], rewards := [some 1, some 1, some 1], contexts := some [[0], [1], [2]] },
      { labels := [0, 0, 0] }, { tape := [] }),
   (.removeArm (.ok 1), {}, { tape := [] }),
   (.addArm (.ok 1) none, {}, { tape := [] })]

def k5Query (b : Bandit Nat) : PredOut Nat :=
  (b.step k5Le (.predictExp { contexts := some [[1]] }) { cells := [0] } { tape := [] }).2.1.out

def k5ExpOf (o : PredOut Nat) (a : Nat) : Option Expect :=
  match o.exps with
  | .one d => (d.find? (·.1 = a)).map (·.2)
  | _ => none

/-- **K5 (C12), witness.**  The stored history holds two rewards 1 for arm 1 in the query's cluster, yet
    after `remove_arm(1); add_arm(1)` the reported expectation of arm 1 is 0 (the documented statistic is
    their mean, 1) — and one more `partial_fit` (of another arm's row) brings it back to 1: the property
    "conditions on exactly the query's cell" fails between the `add_arm` and the next training call. -/
theorem clusters_readd_counterexample :
    k5ExpOf (k5Query (k5Bandit.runHist k5Le k5Hist)) 1 = some (.val 0) ∧
    k5ExpOf (k5Query ((k5Bandit.runHist k5Le k5Hist).step k5Le
      (.partialFit { decisions := [0], rewards := [some 1], contexts := some [[0]] })
      { labels := [0, 0, 0, 0] } { tape := [] }).1) 1 = some (.val 1) := by
  decide +kernel

end Mab
