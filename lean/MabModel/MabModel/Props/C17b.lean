/-
  C17b — a rejected call changes nothing, along whole histories.

  `rejected_noop` (C17) is about one call.  Here: take **any** history of facade calls, some of which are
  rejected in the state they meet.  Erasing the rejected calls from the history changes neither the
  bandit the history ends in nor what any accepted call returned or requested from its sampler.
-/
import MabModel.Props.C17
import MabModel.Lemmas.History
open Py

namespace Mab
variable {α : Type} [DecidableEq α]

/-- the history with the calls erased that are rejected in the state they meet -/
def Bandit.accepted (le : Expect → Expect → Bool) (b : Bandit α) : History α → History α
  | [] => []
  | (op, o, g) :: t =>
    if (b.step le op o g).2.1.err.isSome then Bandit.accepted le b t
    else (op, o, g) :: Bandit.accepted le (b.step le op o g).1 t

theorem step_rejected {le : Expect → Expect → Bool} {b : Bandit α} {op : Op α} {o : Oracle} {g : Rng}
    (h : (b.step le op o g).2.1.err.isSome = true) : (b.step le op o g).1 = b ∧ (b.step le op o g).2.2 = g :=
  rejected_noop le b op o g (Option.isSome_iff_ne_none.mp h)

theorem erase_rejected (le : Expect → Expect → Bool) (h : History α) : ∀ b : Bandit α,
    b.runHist le h = b.runHist le (b.accepted le h) ∧
    (b.runOuts le h).filter (fun r => !r.1.err.isSome) = b.runOuts le (b.accepted le h) := by
  induction h with
  | nil => intro b; exact ⟨rfl, rfl⟩
  | cons c t ih =>
    intro b
    obtain ⟨op, o, g⟩ := c
    simp only [Bandit.accepted, Bandit.runHist, Bandit.runOuts, List.filter_cons]
    by_cases hr : (b.step le op o g).2.1.err.isSome = true
    · rw [if_pos hr, (step_rejected hr).1]
      simpa only [hr, Bool.not_true, Bool.false_eq_true, if_false] using ih b
    · rw [if_neg hr]
      obtain ⟨ih1, ih2⟩ := ih (b.step le op o g).1
      rw [Bool.not_eq_true] at hr
      simp only [hr, Bool.not_false, if_true, Bandit.runHist, Bandit.runOuts, ← ih1, ih2, and_self]

/-- **C17 (every history), state.**  The bandit after a history is the bandit after the same history
    without its rejected calls. -/
theorem runHist_erase_rejected (le : Expect → Expect → Bool) (h : History α) : ∀ b : Bandit α,
    b.runHist le h = b.runHist le (b.accepted le h) :=
  fun b => (erase_rejected le h b).1

/-- **C17 (every history), observations.**  What the accepted calls return and request is what they
    return and request in the history without the rejected calls: filtering the error entries out of the
    outputs of the full history gives the outputs of the erased history. -/
theorem runOuts_erase_rejected (le : Expect → Expect → Bool) (h : History α) : ∀ b : Bandit α,
    (b.runOuts le h).filter (fun r => !r.1.err.isSome) = b.runOuts le (b.accepted le h) :=
  fun b => (erase_rejected le h b).2

/-- no call of the erased history is rejected: the erased history is the history a caller who never
    made a mistake would have issued -/
theorem accepted_all_ok (le : Expect → Expect → Bool) (h : History α) : ∀ b : Bandit α,
    ∀ r ∈ b.runOuts le (b.accepted le h), r.1.err = none := by
  intro b r hr
  rw [← runOuts_erase_rejected] at hr
  simpa using (List.mem_filter.mp hr).2

/-- a rejected call also hands its tape back untouched (the caller's generator is where it was) -/
theorem rejected_tape_untouched (le : Expect → Expect → Bool) (b : Bandit α) (op : Op α) (o : Oracle) (g : Rng)
    (h : (b.step le op o g).2.1.err.isSome = true) : (b.step le op o g).2.2 = g :=
  (step_rejected h).2

/-! non-vacuity: a history with two rejected calls (wrong width, duplicate arm) around an accepted
    partial_fit; erasing leaves exactly the accepted call -/
def c17bHist : History Nat :=
  [(.partialFit { decisions := [0], rewards := [some 1], contexts := some [[0, 0, 0]] }, {}, { tape := [] }),
   (.partialFit { decisions := [1], rewards := [some 1], contexts := some [[2, 2]] }, {}, { tape := [] }),
   (.addArm (.ok 1) none, {}, { tape := [] })]

example : (c17Bandit.accepted (fun _ _ => true) c17bHist).length = 1 := by decide +kernel
example : ((c17Bandit.runOuts (fun _ _ => true) c17bHist).map (·.1.err)) = [some .shape, none, some .value] := by
  decide +kernel

end Mab
