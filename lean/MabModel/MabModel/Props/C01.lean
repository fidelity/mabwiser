/-
  C01 — context-free policies compute the documented statistic of each arm's history.
  (The refinement is proved for every policy kind, the linear ones included.)
-/
import MabModel.Lemmas.Refine
import MabModel.Props.Real
open Py
set_option linter.unusedSectionVars false

namespace Mab
variable {α : Type} [DecidableEq α]

/-- **C01 (refinement).**  For every policy kind, every duplicate-free arm list and every finite
    history over {fit, partial_fit, add_arm, remove_arm} — arbitrary batches, batches that omit arms,
    labels that are not arms, re-added labels — the learned part of every current arm's record is
    the policy's statistic of exactly that arm's log since the most recent fit / add. -/
theorem cf_refines_log (kind : Kind) (arms : List α) (k1 : Bool) (hn : arms.Nodup) (ops : List (LPOp α)) :
    Ref ((LP.init kind arms none k1).run ops) ((Spec.init arms).run ops) :=
  (List.foldl_rel (r := fun (s : LP α) (t : Spec α) => s.binz = none ∧ Ref s t) ⟨rfl, ref_init kind arms k1 hn⟩
    fun op _ s t ⟨hb, h⟩ => ⟨(stepOp_opts s op).binz.trans hb, ref_step s t op hb h⟩).2

/-! ### what the record of an arm with log `log` looks like, per policy (a fresh record trained once) -/

def lsum (log : List (Rat × Vec)) : Rat := rsum log
def lmean (log : List (Rat × Vec)) : Rat := rsum log / (log.length : Rat)

theorem stat_greedy (eps : Rat) (N : Nat) (log : List (Rat × Vec)) :
    let r : ArmSt α := fitRec (.greedy eps) N log {}
    r.sum = (if log.length = 0 then 0 else lsum log) ∧ r.cnt = log.length ∧
    r.exp = (if log.length = 0 then .val 0 else .val (lmean log)) := by
  by_cases h : log.length = 0
  · simp [fitRec, List.eq_nil_of_length_eq_zero h]
  · simp [fitRec, h, lsum, lmean]

theorem stat_ucb (alpha : Rat) (N : Nat) (log : List (Rat × Vec)) :
    let r : ArmSt α := fitRec (.ucb alpha) N log {}
    r.cnt = log.length ∧
    r.exp = (if log.length = 0 then .val 0 else .ucb (lmean log) alpha N log.length) := by
  by_cases h : log.length = 0
  · simp [fitRec, List.eq_nil_of_length_eq_zero h]
  · simp [fitRec, h, lmean]

theorem stat_softmax (tau : Rat) (N : Nat) (log : List (Rat × Vec)) :
    let r : ArmSt α := fitRec (.softmax tau) N log {}
    r.cnt = log.length ∧ r.mean = (if log.length = 0 then 0 else lmean log) := by
  by_cases h : log.length = 0
  · simp [fitRec, List.eq_nil_of_length_eq_zero h]
  · simp [fitRec, h, lmean]

theorem stat_thompson (N : Nat) (log : List (Rat × Vec)) :
    let r : ArmSt α := fitRec .thompson N log {}
    r.succ = 1 + lsum log ∧ r.fail = 1 + ((log.length : Rat) - lsum log) := by
  simp [fitRec, lsum]

theorem stat_popularity (N : Nat) (log : List (Rat × Vec)) :
    let r : ArmSt α := fitRec .popularity N log {}
    r.cnt = log.length ∧ popMean r = (if log.length = 0 then 0 else lmean log) := by
  by_cases h : log.length = 0
  · simp [fitRec, popMean, List.eq_nil_of_length_eq_zero h]
  · simp [fitRec, h, lmean, popMean]

theorem stat_random (N : Nat) (log : List (Rat × Vec)) :
    (fitRec .random N log {} : ArmSt α) = {} := by simp [fitRec]

/-- the refinement read for one arm: every kind, either variant of the initial inverse -/
theorem run_strip (kind : Kind) (arms : List α) (k1 : Bool) (hn : arms.Nodup) (ops : List (LPOp α)) (a : α)
    (ha : a ∈ ((LP.init kind arms none k1).run ops).arms) :
    ∃ r : ArmSt α, ((LP.init kind arms none k1).run ops).st.get? a = some r ∧
      r.strip kind = (fitRec kind ((Spec.init arms).run ops).N (((Spec.init arms).run ops).log a)
        (freshRec kind ((LP.init kind arms none k1).run ops).numFeatures k1)).strip kind := by
  obtain ⟨r, hr, he⟩ := (cf_refines_log kind arms k1 hn ops).get ha
  rw [statOf, run_kind, (run_opts (LP.init kind arms none k1) ops).k1] at he
  exact ⟨r, hr, he⟩

theorem cf_strip (kind : Kind) (hlin : kind.isLinear = false) (arms : List α) (hn : arms.Nodup)
    (ops : List (LPOp α)) (a : α) (ha : a ∈ ((LP.init kind arms none false).run ops).arms) :
    ∃ r : ArmSt α, ((LP.init kind arms none false).run ops).st.get? a = some r ∧
      r.strip kind = (fitRec kind ((Spec.init arms).run ops).N (((Spec.init arms).run ops).log a) {}).strip kind := by
  have hfresh : ∀ nf k1, (freshRec kind nf k1 : ArmSt α) = {} := fun nf k1 => by simp [freshRec, hlin]
  simpa only [hfresh] using run_strip kind arms false hn ops a ha

/-- **C01 (statistics).**  After *any* history, the record of every current arm of a context-free
    policy carries exactly the statistics of a fresh record trained once on the arm's log, with `N`
    the number of rows since the most recent fit (in particular `N` is current for arms that did not
    occur in the last batch, and an arm without observations holds the neutral values). -/
theorem cf_statistics (kind : Kind) (hlin : kind.isLinear = false) (arms : List α) (hn : arms.Nodup)
    (ops : List (LPOp α)) (a : α) (ha : a ∈ ((LP.init kind arms none false).run ops).arms) :
    ∃ r : ArmSt α, ((LP.init kind arms none false).run ops).st.get? a = some r ∧
      let spec : ArmSt α := fitRec kind ((Spec.init arms).run ops).N (((Spec.init arms).run ops).log a) {}
      r.sum = spec.sum ∧ r.cnt = spec.cnt ∧ r.mean = spec.mean ∧ r.succ = spec.succ ∧ r.fail = spec.fail ∧
      (kind.localExp = true → r.exp = spec.exp) := by
  obtain ⟨r, hr, he⟩ := cf_strip kind hlin arms hn ops a ha
  unfold ArmSt.strip at he
  refine ⟨r, hr, (congrArg ArmSt.sum he :), (congrArg ArmSt.cnt he :), (congrArg ArmSt.mean he :),
    (congrArg ArmSt.succ he :), (congrArg ArmSt.fail he :), fun hl => ?_⟩
  simpa [hl] using congrArg ArmSt.exp he

theorem cf_read {β : Type} (kind : Kind) (hlin : kind.isLinear = false) (arms : List α) (hn : arms.Nodup)
    (ops : List (LPOp α)) (a : α) (ha : a ∈ ((LP.init kind arms none false).run ops).arms)
    (f : ArmSt α → β) (hf : ∀ r : ArmSt α, f (r.strip kind) = f r) :
    (((LP.init kind arms none false).run ops).st.get? a).map f =
      some (f (fitRec kind ((Spec.init arms).run ops).N (((Spec.init arms).run ops).log a) {})) := by
  obtain ⟨r, hr, he⟩ := cf_strip kind hlin arms hn ops a ha
  rw [hr, Option.map_some, ← hf r, he, hf]

/-- **C01, UCB1 written out**: `mean + α·sqrt(2 ln N / n)` with the current `N`; 0 without data. -/
theorem cf_expectation_ucb (alpha : Rat) (arms : List α) (hn : arms.Nodup) (ops : List (LPOp α))
    (a : α) (ha : a ∈ ((LP.init (.ucb alpha) arms none false).run ops).arms) :
    let log := ((Spec.init arms).run ops).log a
    (((LP.init (.ucb alpha) arms none false).run ops).st.get? a).map (·.exp) =
      some (if log.length = 0 then .val 0 else .ucb (lmean log) alpha ((Spec.init arms).run ops).N log.length) :=
  (cf_read (.ucb alpha) rfl arms hn ops a ha (·.exp) fun _ => rfl).trans (congrArg some (stat_ucb (α := α) alpha _ _).2)

/-- **C01, ε-greedy written out**: the running mean of the arm's rewards since the last fit. -/
theorem cf_expectation_greedy (eps : Rat) (arms : List α) (hn : arms.Nodup) (ops : List (LPOp α))
    (a : α) (ha : a ∈ ((LP.init (.greedy eps) arms none false).run ops).arms) :
    let log := ((Spec.init arms).run ops).log a
    (((LP.init (.greedy eps) arms none false).run ops).st.get? a).map (·.exp) =
      some (if log.length = 0 then .val 0 else .val (lmean log)) :=
  (cf_read (.greedy eps) rfl arms hn ops a ha (·.exp) fun _ => rfl).trans (congrArg some (stat_greedy (α := α) eps _ _).2.2)

/-- **C01, Thompson Sampling written out**: Beta parameters one-plus-successes / one-plus-failures. -/
theorem cf_thompson_counts (arms : List α) (hn : arms.Nodup) (ops : List (LPOp α))
    (a : α) (ha : a ∈ ((LP.init .thompson arms none false).run ops).arms) :
    let log := ((Spec.init arms).run ops).log a
    (((LP.init .thompson arms none false).run ops).st.get? a).map (fun r => (r.succ, r.fail)) =
      some (1 + lsum log, 1 + ((log.length : Rat) - lsum log)) := by
  intro log
  have hs := stat_thompson (α := α) ((Spec.init arms).run ops).N log
  exact (cf_read .thompson rfl arms hn ops a ha _ fun _ => rfl).trans (congrArg some (Prod.ext hs.1 hs.2))

/-- `remove_arm a; add_arm a` leaves the arm with the neutral statistics (empty log). -/
theorem readd_is_fresh (arms : List α) (ops : List (LPOp α)) (a : α) (hmem : a ∈ ((Spec.init arms).run ops).arms) :
    ((Spec.init arms).run (ops ++ [.removeArm a, .addArm a])).log a = [] := by
  simp only [Spec.run, List.foldl_append, List.foldl_cons, List.foldl_nil]
  have h1 : a ∈ (List.foldl Spec.step (Spec.init arms) ops).arms := hmem
  simp [Spec.step, h1]

/-! ### Softmax: the shares are the soft-max of the *current* means of exactly the current arms -/

def SoftInv (tau : Rat) (s : LP α) : Prop := ∀ p ∈ s.st, p.2.exp = .soft s.means tau p.2.mean

theorem softInv_mapKV (tau : Rat) (s : LP α) (f : α → ArmSt α → ArmSt α)
    (hexp : ∀ a r, (f a r).exp = .soft s.means tau r.mean) (hmean : ∀ a r, (f a r).mean = r.mean) :
    SoftInv tau { s with st := s.st.mapKV f } := by
  intro p hp
  obtain ⟨q, _, rfl⟩ := List.mem_map.mp hp
  show (f q.1 q.2).exp = .soft (List.map _ (s.st.mapKV f).vals) tau (f q.1 q.2).mean
  rw [Dict.vals_of_view (Dict.view_mapKV (·.mean) s.st f hmean), hmean]
  exact hexp ..

theorem expOp_softInv (tau : Rat) (s : LP α) (hk : s.kind = .softmax tau) : SoftInv tau s.expOp := by
  rw [expOp_eq]
  exact softInv_mapKV tau s _ (fun _ _ => by rw [hk]; rfl) (fun _ _ => by rw [hk]; rfl)

theorem train_softInv (tau : Rat) (s : LP α) (B : Batch α) (p : Bool) (hk : s.kind = .softmax tau) :
    SoftInv tau (s.train B p) := by
  unfold LP.train
  rw [post_eq_mapKV, parallelFit_kind, hk]
  exact softInv_mapKV tau _ _ (fun _ _ => by rw [postRec_eq]; rfl) (fun _ _ => by rw [postRec_eq])

/-- **C01, Softmax**: after any history that contains a `fit`, every current arm's expectation is the
    max-shifted soft-max share of its *current* mean among the current means of exactly the current
    arms (so `add_arm` / `remove_arm` re-normalise, and unobserved arms hold the share of mean 0). -/
theorem softmax_shares (tau : Rat) (s : LP α) (hk : s.kind = .softmax tau) (op : LPOp α)
    (h : SoftInv tau s ∨ (∃ b w, op = .fit b w)) : SoftInv tau (s.stepOp op) := by
  cases op with
  | fit b w => rw [LP.stepOp, fit_eq_train s b w (by simp [hk])]; exact train_softInv tau _ _ _ hk
  | partialFit b => rw [LP.stepOp, partialFit_eq_train s b (by simp [hk])]; exact train_softInv tau _ _ _ hk
  | addArm a =>
    simp only [LP.stepOp]
    split
    · rcases h with h | ⟨b, w, e⟩
      · exact h
      · cases e
    · exact expOp_softInv tau _ hk
  | removeArm a =>
    simp only [LP.stepOp]
    split
    · -- `_normalize_expectations` is Popularity's: here it is the identity pass
      rw [LP.removeArm, normalize_eq]
      simp only [show (s.dropArm a).expOp.kind = .softmax tau from (expOp_kind _).trans hk, normRec, Dict.mapKV_id]
      exact expOp_softInv tau (s.dropArm a) hk
    · rcases h with h | ⟨b, w, e⟩
      · exact h
      · cases e

/-- the same for whole histories: everything after the first `fit` keeps the invariant -/
theorem softmax_shares_run (tau : Rat) (arms : List α) (ops₁ ops₂ : List (LPOp α)) (b : Batch α) (w : Option Nat) :
    SoftInv tau ((LP.init (.softmax tau) arms none false).run (ops₁ ++ [.fit b w] ++ ops₂)) := by
  have hk1 : ((LP.init (.softmax tau) arms none false).run ops₁).kind = .softmax tau := run_kind _ _
  simp only [LP.run, List.foldl_append, List.foldl_cons, List.foldl_nil]
  exact (List.foldlRecOn (motive := fun s : LP α => s.kind = .softmax tau ∧ SoftInv tau s) ops₂ LP.stepOp
    ⟨(stepOp_kind ..).trans hk1, softmax_shares tau _ hk1 (.fit b w) (Or.inr ⟨b, w, rfl⟩)⟩
    fun s ⟨hk, h⟩ op _ => ⟨(stepOp_kind ..).trans hk, softmax_shares tau s hk op (Or.inl h)⟩).2

/-! ### Popularity: the expectations are the arm means normalised to sum to one -/

/-- **C01, Popularity**: `_normalize_expectations` — which closes `fit`, `partial_fit` and `remove_arm` —
    leaves `mean a / Σ means` (computed from the *raw* means of all current arms) when the means do
    not sum to zero, and the uniform share otherwise; in the first case the expectations sum to 1. -/
theorem popularity_normalised (s : LP α) (hk : s.kind = .popularity) :
    (s.popTotal ≠ 0 →
      s.normalize.st.vals.map (·.exp) = s.st.vals.map (fun r => Expect.val (popMean r / s.popTotal)) ∧
      (s.st.vals.map (fun r => popMean r / s.popTotal)).sum = 1) ∧
    (s.popTotal = 0 →
      s.normalize.st.vals.map (·.exp) = s.st.vals.map (fun _ => Expect.val (1 / (s.arms.length : Rat)))) := by
  constructor
  · intro h
    constructor
    · rw [normalize_eq]; simp only [normRec, hk, h, ↓reduceIte, Dict.mapKV, Dict.vals, List.map_map, Function.comp_def]
    · have := list_sum_map_div (s.st.vals.map popMean) s.popTotal
      simp only [List.map_map, Function.comp_def] at this
      rw [this]
      exact div_self h
  · intro h
    rw [normalize_eq]; simp only [normRec, hk, h, ↓reduceIte, Dict.mapKV, Dict.vals, List.map_map, Function.comp_def]

/-- `_normalize_expectations` is the last of the passes that close a training call -/
theorem train_ends_with_normalize (s : LP α) (B : Batch α) (p : Bool) (hk : s.kind = .popularity) :
    ∃ s' : LP α, s'.kind = .popularity ∧ s.train B p = s'.normalize :=
  ⟨(s.parallelFit B).expOp.setTrained B p, ((expOp_kind _).trans (parallelFit_kind ..)).trans hk, rfl⟩

theorem fit_ends_with_normalize (s : LP α) (b : Batch α) (w : Option Nat) (hk : s.kind = .popularity) :
    ∃ s' : LP α, s'.kind = .popularity ∧ s.fit b w = s'.normalize := by
  rw [fit_eq_train s b w (by simp [hk])]; exact train_ends_with_normalize _ _ _ hk

theorem partialFit_ends_with_normalize (s : LP α) (b : Batch α) (hk : s.kind = .popularity) :
    ∃ s' : LP α, s'.kind = .popularity ∧ s.partialFit b = s'.normalize := by
  rw [partialFit_eq_train s b (by simp [hk])]; exact train_ends_with_normalize _ _ _ hk

/-! ### non-vacuity: a concrete history with an arm-omitting batch, a removed and re-added arm -/

def exampleOps : List (LPOp Nat) :=
  [.fit [⟨0, 1, []⟩, ⟨0, 0, []⟩, ⟨1, 3, []⟩], .partialFit [⟨0, 1, []⟩], .removeArm 1, .addArm 1,
   .partialFit [⟨1, 2, []⟩, ⟨2, 5, []⟩]]

example : ((LP.init (.ucb 1) [0, 1] none false).run exampleOps).expDict =
    [(0, .ucb (2/3) 1 6 3), (1, .ucb 2 1 6 1)] := by decide +kernel

example : (((Spec.init [0, 1]).run exampleOps).log 1).map (·.1) = [2] ∧ ((Spec.init [0, 1]).run exampleOps).N = 6 := by
  decide +kernel

end Mab
