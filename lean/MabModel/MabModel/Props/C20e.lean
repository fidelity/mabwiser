/-
  C20 (continued) — relabelling equivariance at the level of the whole bandit (`MAB` with any neighbourhood
  policy): the stored history, the LSH tables, the per-cluster policies and the leaf reward stores of the
  relabelled bandit are the relabelled ones, through every training call and arm change.
-/
import MabModel.Props.C20b
import MabModel.Lemmas.Store
open Py
set_option linter.unusedSectionVars false

namespace Mab
variable {α β : Type} [DecidableEq α] [DecidableEq β]

/-- rename the keys of a per-arm dictionary (definitionally `Dict.rekey f id`: proofs go through `renameK_eq` to the
    `Dict.*_rekey_id` lemmas) -/
def renameK {γ : Type} (f : α → β) (d : Dict α γ) : Dict β γ := d.map fun p => (f p.1, p.2)

/-- Arm labels occur in the arm list, the policies, the stored rows and as keys of the two per-arm stores; planes,
    tables and cluster labels are label-free and stay. -/
def Bandit.relabel (f : α → β) (finv : β → α) (b : Bandit α) : Bandit β :=
  { arms := b.arms.map f, lp := b.lp.relabel f finv, np := b.np, isFit := b.isFit, hist := relabelBatch f b.hist,
    npExp := renameK f b.npExp, planes := b.planes, tables := b.tables, lps := b.lps.map (LP.relabel f finv),
    labels := b.labels, leafRewards := renameK f b.leafRewards }

variable (f : α → β) (finv : β → α) (hinv : ∀ a, finv (f a) = a)

theorem renameK_eq {γ : Type} (d : Dict α γ) : renameK f d = Dict.rekey f id d := rfl

theorem renameK_eq_renameD (d : ExpDict α) : renameK f d = renameD f d := rfl

theorem renameK_keys {γ : Type} (d : Dict α γ) : (renameK f d).keys = d.keys.map f := Dict.keys_rekey f id d

theorem Bandit.relabel_arms (b : Bandit α) : (b.relabel f finv).arms = b.arms.map f := rfl
theorem Bandit.relabel_np (b : Bandit α) : (b.relabel f finv).np = b.np := rfl
theorem Bandit.relabel_lp (b : Bandit α) : (b.relabel f finv).lp = b.lp.relabel f finv := rfl
theorem Bandit.relabel_hist (b : Bandit α) : (b.relabel f finv).hist = relabelBatch f b.hist := rfl

theorem lshFitOp_relabel (b : Bandit α) (ctxs : List Vec) (start : Nat) :
    lshFitOp (b.relabel f finv) ctxs start = (lshFitOp b ctxs start).relabel f finv := rfl

theorem headD_relabel (b : Bandit α) :
    (b.relabel f finv).lps.headD (b.relabel f finv).lp = (b.lps.headD b.lp).relabel f finv := List.headD_map

include hinv

theorem npBinarize_relabel (lp : LP α) (b : Batch α) :
    npBinarize (lp.relabel f finv) (relabelBatch f b) =
      ((npBinarize lp b).1.relabel f finv, relabelBatch f (npBinarize lp b).2) := by
  unfold npBinarize
  rw [relabel_kind]
  cases lp.kind with
  | thompson =>
    cases hb : lp.binz with
    | none => simp only [LP.relabel, hb]; rfl
    | some bz =>
      simp only [LP.relabel, hb, Option.map_some]
      exact Prod.ext rfl (by simp only [LP.binarize, relabelBatch, List.map_map, Function.comp_def, hinv])
  | _ => rfl

theorem clustersFitOp_relabel (b : Bandit α) (labels : List Nat) (w : Option Nat) :
    clustersFitOp (b.relabel f finv) labels w = (clustersFitOp b labels w).relabel f finv := by
  simp only [clustersFitOp, Bandit.relabel]
  congr 1
  rw [List.zipIdx_map, List.map_map, List.map_map]
  refine List.map_congr_left fun p _ => ?_
  simp only [Function.comp_def, Prod.map_fst, Prod.map_snd, id_eq]
  rw [← fit_relabel f finv hinv]
  congr 1
  -- the rows of cell `p.2` of the relabelled history are the relabelled rows of cell `p.2`
  simp only [relabelBatch, List.zip_map_left, List.filterMap_map, List.map_filterMap, Function.comp_def,
    Prod.map_fst, Prod.map_snd, id_eq, apply_ite (Option.map _), Option.map_some, Option.map_none]

theorem treeFitArms_relabel (b : Bandit α) (batch : Batch α) (leaves : List (List Nat)) :
    treeFitArms (b.relabel f finv) (relabelBatch f batch) leaves = (treeFitArms b batch leaves).relabel f finv := by
  simp only [treeFitArms, Bandit.relabel]
  congr 1
  rw [List.zipIdx_map, List.foldl_map]
  -- one task per arm, each a read-modify-write of that arm's leaf store
  refine List.foldl_hom (renameK f) fun lr p => ?_
  simp only [Prod.map_fst, Prod.map_snd, id_eq, rowsOf_relabel f finv hinv, apply_ite (renameK f)]
  congr 1
  exact Dict.modify_rekey_id (Function.LeftInverse.injective hinv) lr p.1 _

/-- **C20 (relabelling, `fit` of the whole bandit).** -/
theorem impFit_relabel (b : Bandit α) (batch : Batch α) (o : Oracle) (g : Rng) :
    (b.relabel f finv).impFit (relabelBatch f batch) o g = ((b.impFit batch o g).1.relabel f finv, (b.impFit batch o g).2) := by
  unfold Bandit.impFit
  rw [Bandit.relabel_np, batchWidth_relabel f]
  cases b.np with
  | none =>
    refine Prod.ext ?_ rfl
    simp only [Bandit.relabel, fit_relabel f finv hinv]
  | radius | knn =>
    refine Prod.ext ?_ rfl
    simp only [Bandit.relabel, npBinarize_relabel f finv hinv]
  | lsh nd nt p =>
    simp only [Bandit.relabel_lp, npBinarize_relabel f finv hinv, relabelBatch_ctx]
    exact Prod.ext rfl rfl
  | clusters n =>
    refine Prod.ext ?_ rfl
    simp only [headD_relabel, npBinarize_relabel f finv hinv, ← clustersFitOp_relabel f finv hinv]
    -- the two bandits differ only in whether each cluster's policy is flagged before or after it is relabelled
    congr 1
    simp only [Bandit.relabel, List.map_map]
    congr 1
  | tree =>
    refine Prod.ext ?_ rfl
    simp only [Bandit.relabel_lp, npBinarize_relabel f finv hinv, ← treeFitArms_relabel f finv hinv]
    congr 1
    simp only [Bandit.relabel, renameK_eq, Dict.rekey_fromKeys, id_eq]

/-- **C20 (relabelling, `partial_fit` of the whole bandit).** -/
theorem impPartialFit_relabel (b : Bandit α) (batch : Batch α) (o : Oracle) (g : Rng) :
    (b.relabel f finv).impPartialFit (relabelBatch f batch) o g =
      ((b.impPartialFit batch o g).1.relabel f finv, (b.impPartialFit batch o g).2) := by
  unfold Bandit.impPartialFit
  rw [Bandit.relabel_np]
  cases b.np with
  | none =>
    refine Prod.ext ?_ rfl
    simp only [Bandit.relabel, partialFit_relabel f finv hinv]
  | radius | knn =>
    refine Prod.ext ?_ rfl
    simp only [Bandit.relabel, npBinarize_relabel f finv hinv, relabelBatch_append]
  | lsh nd nt p =>
    simp only [Bandit.relabel_lp, Bandit.relabel_hist, npBinarize_relabel f finv hinv, relabelBatch_length, relabelBatch_ctx]
    refine Prod.ext ?_ rfl
    simp only [lshFitOp, Bandit.relabel, relabelBatch_append]
  | clusters n =>
    refine Prod.ext ?_ rfl
    simp only [headD_relabel, Bandit.relabel_hist, npBinarize_relabel f finv hinv, ← relabelBatch_append,
      batchWidth_relabel f, ← clustersFitOp_relabel f finv hinv]
    -- the two bandits differ only in whether each cluster's policy is flagged before or after it is relabelled
    congr 1
    simp only [Bandit.relabel, List.map_map]
    congr 1
  | tree =>
    refine Prod.ext ?_ rfl
    simp only [Bandit.relabel_lp, npBinarize_relabel f finv hinv, ← treeFitArms_relabel f finv hinv]
    congr 1

/-- **C20 (relabelling, `add_arm`).** -/
theorem impAddArm_relabel (b : Bandit α) (a : α) (bz : Option (α → Rat → Rat)) :
    (b.relabel f finv).impAddArm (f a) (bz.map fun g x => g (finv x)) = (b.impAddArm a bz).relabel f finv := by
  have hf := Function.LeftInverse.injective hinv
  -- a Thompson policy that takes over a binarizer is flagged, whatever the arms are called
  have hflag : ∀ lp : LP α,
      (match (lp.relabel f finv).kind, bz.map (fun g x => g (finv x)) with
        | .thompson, some _ => { lp.relabel f finv with ctxBin := true }
        | _, _ => lp.relabel f finv) =
      (match lp.kind, bz with
        | .thompson, some _ => { lp with ctxBin := true }
        | _, _ => lp).relabel f finv := fun lp => by
    refine (addArm_flag _ _).trans (Eq.trans ?_ (congrArg (LP.relabel f finv) (addArm_flag lp bz)).symm)
    rw [relabel_kind, Option.isSome_map]; rfl
  unfold Bandit.impAddArm
  rw [Bandit.relabel_np]
  cases b.np with
  | none => simp only [Bandit.relabel, List.map_append, List.map_cons, List.map_nil, addArm_relabel f finv hinv]
  | radius | knn | lsh =>
    simp only [Bandit.relabel, List.map_append, List.map_cons, List.map_nil, addArm_relabel f finv hinv,
      renameK_eq, Dict.set_rekey_id hf]
    congr 1
    exact hflag _
  | clusters n =>
    simp only [Bandit.relabel, List.map_append, List.map_cons, List.map_nil, List.map_map, Function.comp_def,
      addArm_relabel f finv hinv, renameK_eq, Dict.set_rekey_id hf]
  | tree =>
    simp only [Bandit.relabel, List.map_append, List.map_cons, List.map_nil, addArm_relabel f finv hinv,
      renameK_eq, Dict.set_rekey_id hf]

/-- **C20 (relabelling, `remove_arm`).** -/
theorem impRemoveArm_relabel (b : Bandit α) (a : α) :
    (b.relabel f finv).impRemoveArm (f a) = (b.impRemoveArm a).relabel f finv := by
  have hf := Function.LeftInverse.injective hinv
  unfold Bandit.impRemoveArm
  rw [Bandit.relabel_np]
  cases b.np <;>
    simp only [Bandit.relabel, List.filter_ne_map_inj hf, renameK_eq, Dict.pop_rekey hf, removeArm_relabel f finv hinv,
      List.map_map, Function.comp_def]

end Mab
