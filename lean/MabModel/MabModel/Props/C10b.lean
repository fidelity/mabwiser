/-
  C10 (continued) — the bisimulation behind "indistinguishable under every later sequence of calls":
  forgetting the last Thompson draw commutes with every operation of the facade, so a bandit that answered
  queries produces the same errors, outputs and sampler requests as one that did not, for every history.
-/
import MabModel.Props.C10
import MabModel.Lemmas.History
open Py

namespace Mab
variable {α : Type} [DecidableEq α]

theorem check_normT (b : Bandit α) (hnp : b.np = .none) (hk : b.lp.kind = .thompson) (op : Op α) :
    ({ b with lp := b.lp.normT } : Bandit α).check op = b.check op := by
  -- with `np = .none` written out, the checks read of the policy only fields that `normT` leaves as they are (`rfl`);
  -- the one check that runs the policy is the warm start
  obtain ⟨_, lp, np⟩ := b
  subst hnp
  cases op with
  | warmStart w =>
    simp only [Bandit.check, warmStart_normT lp w.keys w.raw w.q hk]
    cases lp.warmStart w.keys w.raw w.q <;> rfl
  | _ => rfl

theorem perform_normT (le : Expect → Expect → Bool) (b : Bandit α) (o : Oracle) (g : Rng) (act : Action α)
    (hnp : b.np = .none) (hk : b.lp.kind = .thompson) :
    (({ b with lp := b.lp.normT } : Bandit α).perform le o g act).2 = (b.perform le o g act).2 ∧
    (({ b with lp := b.lp.normT } : Bandit α).perform le o g act).1.norm = (b.perform le o g act).1.norm := by
  -- with `np = .none` written out each action unfolds to the policy's own operation, which commutes with `normT`
  obtain ⟨_, lp, np⟩ := b
  subst hnp
  cases act with
  | fit batch =>
    simp only [Bandit.perform, Bandit.impFit, true_and, Bandit.norm,
      norm_of_normT ((fit_sameCfg lp batch _).kind ▸ hk) (fit_normT lp batch (batchWidth batch) hk)]
  | partialFit batch =>
    simp only [Bandit.perform, Bandit.impPartialFit, true_and, Bandit.norm,
      norm_of_normT ((partialFit_sameCfg lp batch).kind ▸ hk) (partialFit_normT lp batch hk)]
  | addArm a bz =>
    simp only [Bandit.perform, Bandit.impAddArm, true_and, Bandit.norm,
      norm_of_normT ((expOp_sameCfg (lp.insertArm a bz)).kind ▸ hk) (addArm_normT lp a bz hk)]
  | removeArm a =>
    simp only [Bandit.perform, Bandit.impRemoveArm, true_and, Bandit.norm,
      norm_of_normT ((dropArm_sameCfg_removeArm lp a).kind ▸ hk) (removeArm_normT lp a hk)]
  | warmStart w =>
    simp only [Bandit.perform, true_and, warmStart_normT lp w.keys w.raw w.q hk]
    cases hw : lp.warmStart w.keys w.raw w.q with
    | none => simp only [Bandit.norm, Option.map_none, Option.getD_none, normT_norm lp hk]
    | some lp' =>
      simp only [Bandit.norm, Option.map_some, Option.getD_some,
        normT_norm lp' ((warmStart_sameCfg lp lp' _ _ _ hw).kind.symm.trans hk)]
  | query p a =>
    -- a query sees a policy only up to `norm`, and leaves it as it was up to `norm`
    have hout := predictExp_out_of_norm _ _ (a.contexts.map (·.length)) (a.contexts.getD []) .main g (normT_norm lp hk)
    have hst := ((predictExp_readonly lp.normT (a.contexts.map (·.length)) (a.contexts.getD []) .main g).1.trans
      (normT_norm lp hk)).trans (predictExp_readonly lp (a.contexts.map (·.length)) (a.contexts.getD []) .main g).1.symm
    cases p <;>
      simp only [Bandit.perform, Bandit.impPredict, if_true, Bool.false_eq_true, if_false, LP.predict,
        Bandit.norm, hout, hst, and_self]

/-- one facade step of a bandit without neighbourhood policy commutes with forgetting the last draw:
    same error / outputs / requests / tape, and the same state up to the last draw -/
theorem step_norm (le : Expect → Expect → Bool) (b : Bandit α) (op : Op α) (o : Oracle) (g : Rng) (hnp : b.np = .none) :
    (b.norm.step le op o g).2 = (b.step le op o g).2 ∧ (b.norm.step le op o g).1.norm = (b.step le op o g).1.norm := by
  by_cases hk : b.lp.kind = .thompson
  case neg => rw [Bandit.norm, norm_other hk]; exact ⟨rfl, rfl⟩
  rw [Bandit.norm, norm_thompson hk, step_eq, step_eq, check_normT b hnp hk]
  cases b.check op with
  | error e => exact ⟨rfl, Bandit.norm_congr b _ _ (normT_norm b.lp hk)⟩
  | ok act => exact perform_normT le b o g act hnp hk

theorem step_norm_congr (le : Expect → Expect → Bool) (b1 b2 : Bandit α) (op : Op α) (o : Oracle) (g : Rng)
    (hnp : b1.np = .none) (hn : b1.norm = b2.norm) :
    (b1.step le op o g).2 = (b2.step le op o g).2 ∧ (b1.step le op o g).1.norm = (b2.step le op o g).1.norm := by
  obtain ⟨e1, s1⟩ := step_norm le b1 op o g hnp
  obtain ⟨e2, s2⟩ := step_norm le b2 op o g ((congrArg Bandit.np hn).symm.trans hnp)
  rw [hn] at e1 s1
  exact ⟨e1.symm.trans e2, s1.symm.trans s2⟩

/-- **C10 (bisimulation).**  Two bandits (without neighbourhood policy) that agree up to the last
    Thompson draw produce the same errors, outputs and sampler requests under every history. -/
theorem norm_bisim (le : Expect → Expect → Bool) (h : History α) : ∀ (b1 b2 : Bandit α), b1.np = .none →
    b1.norm = b2.norm → b1.runOuts le h = b2.runOuts le h := by
  induction h with
  | nil => intro _ _ _ _; rfl
  | cons x t ih =>
    intro b1 b2 hnp hn
    obtain ⟨op, o, g⟩ := x
    obtain ⟨e, s⟩ := step_norm_congr le b1 b2 op o g hnp hn
    simp only [Bandit.runOuts, e]
    exact congrArg _ (ih _ _ ((step_np ..).trans hnp) s)

def Bandit.afterQueries (le : Expect → Expect → Bool) (b : Bandit α) : List (PredArgs × Bool × Oracle × Rng) → Bandit α
  | [] => b
  | (a, p, o, g) :: t => Bandit.afterQueries le (b.query le a p o g).1 t

/-- **C10 (prediction is read-only).**  A bandit that has answered any number of `predict` /
    `predict_expectations` calls (valid or rejected, any contexts, any draws) is indistinguishable from
    the bandit before those calls under **every** later history of calls — same errors, same outputs,
    same sampler requests — for every learning policy and every neighbourhood policy. -/
theorem queried_indistinguishable (le : Expect → Expect → Bool) (qs : List (PredArgs × Bool × Oracle × Rng)) :
    ∀ (b : Bandit α) (h : History α), (b.afterQueries le qs).runOuts le h = b.runOuts le h := by
  induction qs with
  | nil => intro b h; rfl
  | cons x t ih =>
    intro b h
    obtain ⟨a, p, o, g⟩ := x
    simp only [Bandit.afterQueries]
    rw [ih]
    by_cases hnp : b.np = .none
    · exact norm_bisim le h _ _ ((congrArg Bandit.np (query_norm le b a p o g)).trans hnp) (query_norm le b a p o g)
    · obtain ⟨lp, e, _, h⟩ := query_state le b a p o g
      rw [e, h hnp]

end Mab
