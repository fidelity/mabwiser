/-
  C07 — fit discards everything learned before.
-/
import MabModel.Props.C01
open Py
set_option linter.unusedSectionVars false

namespace Mab
variable {α : Type} [DecidableEq α]

/-- two policy objects with the same configuration and the same arms (in the same order); what they
    have *learned* — statistics, statuses, warm-start copies, per-arm models and their generators,
    `num_features`, row counts — may differ arbitrarily.  (`_ThompsonSampling.fit` leaves the last
    drawn expectations in place, a dead field; `tsExp` says those agree.) -/
structure SameConfig (s s' : LP α) : Prop where
  kind : s.kind = s'.kind
  arms : s.arms = s'.arms
  keys : s.st.keys = s'.st.keys
  binz : s.binz = s'.binz
  ctxBin : s.ctxBin = s'.ctxBin
  k1 : s.k1fixed = s'.k1fixed
  nf : s.kind.isLinear = false → s.numFeatures = s'.numFeatures
  tsExp : s.kind = .thompson → s.st.map (fun p => (p.1, p.2.exp)) = s'.st.map (fun p => (p.1, p.2.exp))

theorem SameConfig.toCfg {s s' : LP α} (h : SameConfig s s') : SameCfg s s' :=
  ⟨h.kind, h.arms, h.keys, h.binz, h.ctxBin, h.k1, h.nf⟩

theorem SameCfg.toConfig {s s' : LP α} (h : SameCfg s s') (hts : s.kind ≠ .thompson) : SameConfig s s' :=
  ⟨h.kind, h.arms, h.keys, h.binz, h.ctxBin, h.k1, h.nf, fun ht => absurd ht hts⟩

theorem resetFor_congr (s s' : LP α) (b : Batch α) (w : Option Nat) (h : SameConfig s s') :
    s.resetFor b w = s'.resetFor b w := by
  have hnf : s.nfFor b w = s'.nfFor b w := by
    cases hl : s.kind.isLinear
    · rw [nfFor_of_not_linear s b w hl, nfFor_of_not_linear s' b w (h.kind ▸ hl), h.nf hl]
    · unfold LP.nfFor; rw [← h.kind, hl]; rfl
  unfold LP.resetFor
  rw [← hnf, ← h.kind, ← h.arms, ← h.binz, ← h.ctxBin, ← h.k1]
  congr 1
  by_cases hts : s.kind = .thompson
  · -- Thompson keeps the last draw: the reset records are a function of the (key, draw) pairs
    have e : ∀ d : Dict α (ArmSt α), d.mapKV (fun _ r => resetRec s.kind (s.nfFor b w) s.k1fixed r) =
        (d.map fun p => (p.1, p.2.exp)).map fun q => (q.1, resetRec s.kind (s.nfFor b w) s.k1fixed { exp := q.2 }) := by
      intro d; simp only [Dict.mapKV, List.map_map, Function.comp_def, resetRec, hts]
    rw [e, e, h.tsExp hts]
  · -- every other policy resets to a constant record: a function of the keys
    have e : ∀ d : Dict α (ArmSt α), d.mapKV (fun _ r => resetRec s.kind (s.nfFor b w) s.k1fixed r) =
        d.keys.map fun k => (k, freshRec s.kind (s.nfFor b w) s.k1fixed) := by
      intro d
      simp only [Dict.mapKV, Dict.keys, List.map_map, Function.comp_def]
      refine List.map_congr_left fun p _ => ?_
      unfold resetRec; split
      · exact absurd ‹_› hts
      · rfl
    rw [e, e, h.keys]

/-- **C07 (learning policy).**  `fit(D)` on *any* state equals `fit(D)` on any other state with the
    same configuration and arm list — in particular on a freshly constructed policy: no observation,
    sufficient statistic, status flag, warm-start copy, per-arm model or generator assignment from
    before the call survives. -/
theorem fit_discards (s s' : LP α) (b : Batch α) (w : Option Nat) (h : SameConfig s s')
    (hr : s.kind ≠ .random) : s.fit b w = s'.fit b w := by
  have hb := (h.toCfg.opts.binarize b).symm
  rw [fit_eq_train s b w hr, fit_eq_train s' b w (h.kind ▸ hr), ← hb, resetFor_congr s s' _ w h]

/-- a policy that went through any history has the configuration of a freshly constructed one with the current arm
    list — every kind; under Thompson Sampling the two differ in the dead last-draw field, which `SameCfg` ignores -/
theorem sameCfg_fresh (kind : Kind) (arms : List α) (k1 : Bool) (hn : arms.Nodup) (ops : List (LPOp α)) :
    SameCfg ((LP.init kind arms none k1).run ops)
            (LP.init kind ((LP.init kind arms none k1).run ops).arms none k1) := by
  have href := cf_refines_log kind arms k1 hn ops
  have o := run_opts (LP.init kind arms none k1) ops
  exact ⟨o.kind, rfl, by rw [href.wf.keys]; simp [LP.init], o.binz, o.ctxBin, o.k1, fun hl => o.nf (o.kind ▸ hl)⟩

set_option linter.unusedVariables false in
/-- a policy that went through any history is config-equal to a freshly constructed one with the
    current arm list (for the non-Thompson policies; Thompson differs in the dead last-draw field) -/
theorem sameConfig_fresh (kind : Kind) (arms : List α) (k1 : Bool) (hn : arms.Nodup) (ops : List (LPOp α))
    (hts : kind ≠ .thompson) (hlin : kind.isLinear = false) :
    SameConfig ((LP.init kind arms none k1).run ops)
               (LP.init kind ((LP.init kind arms none k1).run ops).arms none k1) :=
  (sameCfg_fresh kind arms k1 hn ops).toConfig (by rw [run_kind]; exact hts)

/-- after any history `fit(D)` gives the state a freshly constructed policy with the current arm list gets from
    `fit(D)`, the linear policies included -/
theorem fit_after_history_eq_fresh_all (kind : Kind) (arms : List α) (k1 : Bool) (hn : arms.Nodup)
    (ops : List (LPOp α)) (D : Batch α) (w : Option Nat) (hts : kind ≠ .thompson) (hr : kind ≠ .random) :
    ((LP.init kind arms none k1).run ops).fit D w =
      (LP.init kind ((LP.init kind arms none k1).run ops).arms none k1).fit D w :=
  fit_discards _ _ D w ((sameCfg_fresh kind arms k1 hn ops).toConfig (by rw [run_kind]; exact hts))
    (by rw [run_kind]; exact hr)

set_option linter.unusedVariables false in
/-- **C07 (whole history).**  After any history of fit / partial_fit / add_arm / remove_arm, `fit(D)`
    gives exactly the state a freshly constructed policy with the current arm list gets from `fit(D)`. -/
theorem fit_after_history_eq_fresh (kind : Kind) (arms : List α) (k1 : Bool) (hn : arms.Nodup)
    (ops : List (LPOp α)) (D : Batch α) (w : Option Nat)
    (hts : kind ≠ .thompson) (hr : kind ≠ .random) (hlin : kind.isLinear = false) :
    ((LP.init kind arms none k1).run ops).fit D w =
      (LP.init kind ((LP.init kind arms none k1).run ops).arms none k1).fit D w :=
  fit_after_history_eq_fresh_all kind arms k1 hn ops D w hts hr

end Mab
