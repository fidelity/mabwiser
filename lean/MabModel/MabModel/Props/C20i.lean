/-
  C20 (continued) — row order under `LSHNearest`: in every state reached by `fit` and `partial_fit` the
  neighbourhood of a query is the *set* of stored rows that share a hash code with it in some table
  (`lsh_nhood_exact`), so storing the same observations in another order gives the same answers.
-/
import MabModel.Props.C20h
import MabModel.Props.C11
open Py

namespace Mab
variable {α : Type} [DecidableEq α]

theorem idx_perm (n : Nat) (P : Nat → Bool) (l : List Nat) (hnd : l.Nodup) (hm : ∀ i, i ∈ l ↔ i < n ∧ P i = true) :
    l.Perm ((List.range n).filter P) := by
  refine (List.perm_ext_iff_of_nodup hnd (List.nodup_range.filter _)).mpr ?_
  intro i
  simp [hm]

/-- does the stored row share the query's hash code in some table? -/
def collides (planes : List Mat) (q : Vec) (h : Row α) : Bool :=
  planes.any fun pl => contextHash pl h.ctx == contextHash pl q

set_option linter.unusedSectionVars false in
theorem lsh_selectIdx_nodup (b : Bandit α) (d t : Nat) (pr : Option (List Rat)) (hnp : b.np = .lsh d t pr)
    (q : Vec) (ds : List Rat) (ks : List Nat) : (b.selectIdx q ds ks).1.Nodup := by
  rw [selectIdx_lsh hnp]
  exact nodup_firstOccs _

omit [DecidableEq α] in
theorem lshSel_perm (planes : List Mat) (hist : Batch α) (q : Vec) :
    (lshSel planes hist q).Perm ((List.range hist.length).filter fun i => (hist[i]?).any (collides planes q)) := by
  refine idx_perm _ _ _ (nodup_firstOccs _) fun i => (mem_lshSel ..).trans ?_
  constructor
  · rintro ⟨pl, hpl, hi, hc⟩
    exact ⟨hi, by simpa [List.getElem?_eq_getElem hi, collides] using ⟨pl, hpl, hc⟩⟩
  · rintro ⟨hi, hc⟩
    simp only [List.getElem?_eq_getElem hi, Option.any_some, collides, List.any_eq_true, beq_iff_eq] at hc
    exact hc.imp fun pl h => ⟨h.1, hi, h.2⟩

set_option linter.unusedSectionVars false in
/-- **C11/C20 (LSHNearest selects a set of rows).**  Up to order, the rows handed to the learning policy are the
    stored rows that collide with the query in some table. -/
theorem lsh_rows_perm (b : Bandit α) (d t : Nat) (pr : Option (List Rat)) (hnp : b.np = .lsh d t pr) (hinv : b.LshInv)
    (q : Vec) (ds : List Rat) (ks : List Nat) :
    ((b.selectIdx q ds ks).1.filterMap fun j => b.hist[j]?).Perm (b.hist.filter (collides b.planes q)) ∧
    (b.selectIdx q ds ks).1.length = (b.hist.filter (collides b.planes q)).length := by
  rw [lsh_selectIdx_eq b hnp hinv]
  exact sel_rows b.hist _ (lshSel_perm b.planes b.hist q)

/-- two LSH bandits that store the same rows in different orders (each with the tables of its own order) -/
structure LshPerm (b b' : Bandit α) : Prop where
  same : b' = { b with hist := b'.hist, tables := b'.tables }
  perm : b'.hist.Perm b.hist
  inv : b.LshInv
  inv' : b'.LshInv

section
omit [DecidableEq α]
theorem LshPerm.np {b b' : Bandit α} (h : LshPerm b b') : b'.np = b.np := by rw [h.same]
theorem LshPerm.lp {b b' : Bandit α} (h : LshPerm b b') : b'.lp = b.lp := by rw [h.same]
theorem LshPerm.planes {b b' : Bandit α} (h : LshPerm b b') : b'.planes = b.planes := by rw [h.same]
end

theorem LshPerm.selPerm {b b' : Bandit α} (hp : LshPerm b b') {d t : Nat} {pr : Option (List Rat)}
    (hnp : b.np = .lsh d t pr) : SelPerm b b' :=
  have hnp' : b'.np = .lsh d t pr := hp.np.trans hnp
  .of_filter hp.same hp.perm (lsh_rows_perm b d t pr hnp hp.inv)
    (hp.planes ▸ lsh_rows_perm b' d t pr hnp' hp.inv')
    fun q ds ks => by rw [selectIdx_lsh hnp, selectIdx_lsh hnp']

set_option linter.unusedVariables false in
/-- **C20 (row order, one query row under LSHNearest).** -/
theorem lsh_nhoodRow_perm (le : Expect → Expect → Bool) (b b' : Bandit α) (hp : LshPerm b b') (d t : Nat)
    (pr : Option (List Rat)) (hnp : b.np = .lsh d t pr) (isPredict : Bool) (lp : LP α) (hg : CFGood lp)
    (i : Nat) (q : Vec) (ds : List Rat) (ks : List Nat) (g : Rng) :
    b'.nhoodRow le isPredict lp i q ds ks g = b.nhoodRow le isPredict lp i q ds ks g :=
  nhoodRow_selPerm (hp.selPerm hnp)

set_option linter.unusedVariables false in
/-- **C20 (row order, one worker's chunk under LSHNearest).** -/
theorem lsh_predictChunk_perm (le : Expect → Expect → Bool) (b b' : Bandit α) (hp : LshPerm b b') (d t : Nat)
    (pr : Option (List Rat)) (hnp : b.np = .lsh d t pr) (hg : CFGood b.lp) (isPredict : Bool)
    (qs : List Vec) (start : Nat) (o : Oracle) (g : Rng) :
    b'.predictChunk le isPredict qs start o g = b.predictChunk le isPredict qs start o g :=
  predictChunk_selPerm (hp.selPerm hnp) (hnp ▸ rfl)

set_option linter.unusedVariables false in
/-- **C20 (row order, queries under LSHNearest).** -/
theorem lsh_impPredict_perm (le : Expect → Expect → Bool) (b b' : Bandit α) (hp : LshPerm b b') (d t : Nat)
    (pr : Option (List Rat)) (hnp : b.np = .lsh d t pr) (hg : CFGood b.lp) (isPredict : Bool)
    (mm : Option Nat) (qs : List Vec) (o : Oracle) (g : Rng) :
    (b'.impPredict le isPredict mm qs o g).2 = (b.impPredict le isPredict mm qs o g).2 :=
  impPredict_selPerm (hp.selPerm hnp) (hnp ▸ rfl)

/-- `fit` on the same rows in any order (same width, hence the same hyper-planes from the same draws) -/
theorem lsh_impFit_perm (b : Bandit α) (d t : Nat) (pr : Option (List Rat)) (hnp : b.np = .lsh d t pr) (hg : CFGood b.lp)
    (batch batch' : Batch α) (hb : batch'.Perm batch) (hw : batchWidth batch' = batchWidth batch) (o o' : Oracle) (g : Rng) :
    LshPerm (b.impFit batch o g).1 (b.impFit batch' o' g).1 ∧ (b.impFit batch o g).1.lp = b.lp ∧
      (b.impFit batch o g).1.np = b.np := by
  refine ⟨⟨?_, ?_, lshInv_fit_any b d t pr hnp batch o g, lshInv_fit_any b d t pr hnp batch' o' g⟩, ?_, ?_⟩ <;>
    simp only [Bandit.impFit, hnp, npBinarize_of_binz_none b.lp hg.noBinz, hw, lshFitOp]
  exact hb

theorem lsh_impPartialFit_perm (b b' : Bandit α) (hp : LshPerm b b') (d t : Nat) (pr : Option (List Rat))
    (hnp : b.np = .lsh d t pr) (hg : CFGood b.lp) (batch batch' : Batch α) (hb : batch'.Perm batch) (o o' : Oracle) (g : Rng) :
    LshPerm (b.impPartialFit batch o g).1 (b'.impPartialFit batch' o' g).1 ∧
      (b.impPartialFit batch o g).1.lp = b.lp ∧ (b.impPartialFit batch o g).1.np = b.np := by
  have hnp' : b'.np = .lsh d t pr := hp.np.trans hnp
  refine ⟨⟨?_, ?_, lshInv_partialFit_any b d t pr hnp batch o g hp.inv,
    lshInv_partialFit_any b' d t pr hnp' batch' o' g hp.inv'⟩, ?_, ?_⟩ <;>
    simp only [Bandit.impPartialFit, hnp, hnp', hp.lp, npBinarize_of_binz_none b.lp hg.noBinz, lshFitOp]
  · rw [hp.same]
  · exact hp.perm.append hb

/-- **C20 (row order under LSHNearest, end to end).**  Fit on any permutation of the data (rows of one width),
    continue with partial fits each receiving any permutation of its batch: every later `predict` /
    `predict_expectations` returns what it returns for the original order. -/
theorem lsh_row_order (le : Expect → Expect → Bool) (b : Bandit α) (d t : Nat) (pr : Option (List Rat))
    (hnp : b.np = .lsh d t pr) (hg : CFGood b.lp)
    (batch batch' : Batch α) (hb : batch'.Perm batch) (hw : batchWidth batch' = batchWidth batch)
    (more : List (Batch α × Batch α)) (hmore : ∀ p ∈ more, p.2.Perm p.1)
    (o : Oracle) (g : Rng) (isPredict : Bool) (mm : Option Nat) (qs : List Vec) (oq : Oracle) (gq : Rng) :
    ((more.foldl (fun acc p => (acc.impPartialFit p.2 o g).1) (b.impFit batch' o g).1).impPredict le isPredict mm qs oq gq).2 =
      ((more.foldl (fun acc p => (acc.impPartialFit p.1 o g).1) (b.impFit batch o g).1).impPredict le isPredict mm qs oq gq).2 := by
  obtain ⟨h1, h3, h4⟩ := lsh_impFit_perm b d t pr hnp hg batch batch' hb hw o o g
  obtain ⟨k1, k2, k3⟩ := List.foldl_rel (l := more)
    (r := fun c c' : Bandit α => LshPerm c c' ∧ c.np = .lsh d t pr ∧ CFGood c.lp)
    (f := fun acc p => (acc.impPartialFit p.1 o g).1) (g := fun acc p => (acc.impPartialFit p.2 o g).1)
    ⟨h1, h4.trans hnp, h3 ▸ hg⟩ (fun p hp c c' ⟨c1, c2, c3⟩ => by
      obtain ⟨s1, s3, s4⟩ := lsh_impPartialFit_perm c c' c1 d t pr c2 c3 p.1 p.2 (hmore p hp) o o g
      exact ⟨s1, s4.trans c2, s3 ▸ c3⟩)
  exact lsh_impPredict_perm le _ _ k1 d t pr k2 k3 isPredict mm qs oq gq

/-- the hypotheses are satisfiable: freshly constructed UCB1 and LinUCB policies over two arms are well-formed and
    have no binarizer -/
example : CFGood (LP.init (.ucb 1) [1, 2] : LP Nat) := ⟨⟨rfl, by decide⟩, rfl⟩
example : CFGood (LP.init (.linUCB 1 1) [1, 2] : LP Nat) := ⟨⟨rfl, by decide⟩, rfl⟩

end Mab
