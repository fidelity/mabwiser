/-
  C20 (continued) — row order under `Radius` (exact metrics): the neighbourhood of a query is the *set* of stored rows
  within the radius, so storing the same observations in another order (any permutation of what `fit` /
  `partial_fit` received) gives the same answers for every query — for every learning policy under it (context-free
  or linear, without a binarizer).  The argument is not particular to Radius: two bandits that select the same rows up to
  order answer alike (`SelPerm`), and a policy that selects by a test on the single stored row (`Bandit.SelectsBy`) selects
  the same rows up to order however they are stored; C20i instantiates it for LSHNearest.
-/
import MabModel.Props.C05b
import MabModel.Lemmas.ListPerm
import MabModel.Props.C20
import MabModel.Lemmas.Store
open Py

namespace Mab
variable {α : Type} [DecidableEq α]

set_option linter.unusedSectionVars false in
/-- **C03/C20 (Radius selects a set of rows).**  The rows handed to the learning policy are exactly the stored rows
    within the radius, in storage order. -/
theorem radius_rows_filter (b : Bandit α) (r : Rat) (m : Metric) (pr : Option (List Rat)) (hnp : b.np = .radius r m pr)
    (hm : m ≠ .oracle) (q : Vec) (ds : List Rat) (ks : List Nat) :
    ((b.selectIdx q ds ks).1.filterMap fun j => b.hist[j]?) =
        b.hist.filter (fun h => decide (distExact m h.ctx q ≤ radiusBound m r)) ∧
    (b.selectIdx q ds ks).1.length = (b.hist.filter (fun h => decide (distExact m h.ctx q ≤ radiusBound m r))).length := by
  rw [selectIdx_radius hnp, if_neg hm, zipIdx_filterMap_eq_range_filter (· ≤ radiusBound m r), List.length_map]
  simp only [List.getElem?_map, Option.any_map]
  exact ⟨range_filterMap _ b.hist, (sel_rows b.hist _ (.refl _)).2⟩

/-- a well-formed state and no binarizer (not "context-free", despite the name: the linear policies qualify) -/
structure CFGood (lp : LP α) : Prop where
  wf : lp.WF
  noBinz : lp.binz = none

theorem CFGood.of_sameCfg {s s' : LP α} (h : CFGood s) (c : SameCfg s s') : CFGood s' :=
  ⟨c.wf h.wf, c.binz ▸ h.noBinz⟩

/-- two bandits that differ only in the order of the stored rows -/
structure HistPerm (b b' : Bandit α) : Prop where
  same : b' = { b with hist := b'.hist }
  perm : b'.hist.Perm b.hist

section
omit [DecidableEq α]
theorem HistPerm.np {b b' : Bandit α} (h : HistPerm b b') : b'.np = b.np := by rw [h.same]
theorem HistPerm.lp {b b' : Bandit α} (h : HistPerm b b') : b'.lp = b.lp := by rw [h.same]
end

theorem nhoodRow_good (le : Expect → Expect → Bool) (b : Bandit α) (isPredict : Bool) (lp : LP α) (i : Nat) (q : Vec)
    (ds : List Rat) (ks : List Nat) (g : Rng) (h : CFGood lp) : CFGood (b.nhoodRow le isPredict lp i q ds ks g).1 :=
  h.of_sameCfg (nhoodRow_sameCfg le b isPredict lp i q ds ks g)

/-- `b'` answers every query from the rows `b` answers it from, up to their order -/
structure SelPerm (b b' : Bandit α) : Prop where
  arms : b'.arms = b.arms
  lp : b'.lp = b.lp
  np : b'.np = b.np
  npExp : b'.npExp = b.npExp
  rows : ∀ q ds ks, ((b'.selectIdx q ds ks).1.filterMap fun j => b'.hist[j]?).Perm
    ((b.selectIdx q ds ks).1.filterMap fun j => b.hist[j]?)
  len : ∀ q ds ks, (b'.selectIdx q ds ks).1.length = (b.selectIdx q ds ks).1.length
  tie : ∀ q ds ks, (b'.selectIdx q ds ks).2 = (b.selectIdx q ds ks).2

/-- a row is answered alike: `fit` on a permutation of the selected rows gives the same policy state -/
theorem nhoodRow_selPerm {le : Expect → Expect → Bool} {b b' : Bandit α} (h : SelPerm b b') {isPredict : Bool}
    {lp : LP α} {i : Nat} {q : Vec} {ds : List Rat} {ks : List Nat} {g : Rng} :
    b'.nhoodRow le isPredict lp i q ds ks g = b.nhoodRow le isPredict lp i q ds ks g := by
  have hfit : lp.fit ((b'.selectIdx q ds ks).1.filterMap fun j => b'.hist[j]?) (some q.length) =
      lp.fit ((b.selectIdx q ds ks).1.filterMap fun j => b.hist[j]?) (some q.length) :=
    fit_perm_any lp _ _ _ (h.rows q ds ks) rfl
  unfold Bandit.nhoodRow
  simp only [hfit, h.len q ds ks, h.tie q ds ks, h.arms, h.npExp, h.np]

theorem predictChunk_selPerm {le : Expect → Expect → Bool} {b b' : Bandit α} (h : SelPerm b b') (hnp : b.np.isStored = true)
    {isPredict : Bool} {qs : List Vec} {start : Nat} {o : Oracle} {g : Rng} :
    b'.predictChunk le isPredict qs start o g = b.predictChunk le isPredict qs start o g := by
  rw [predictChunk_of_stored hnp, predictChunk_of_stored (h.np ▸ hnp), h.lp]
  have := (chunkFold_sim Eq id le le b b' isPredict isPredict o start qs.zipIdx
    (fun p _ lp _ g e => e ▸ ⟨(congrArg Prod.fst (nhoodRow_selPerm h)).symm, congrArg Prod.snd (nhoodRow_selPerm h)⟩)
    b.lp b.lp [] [] g rfl).2
  rw [List.map_nil, List.map_id] at this
  rw [this]

theorem impPredict_selPerm {le : Expect → Expect → Bool} {b b' : Bandit α} (h : SelPerm b b') (hnp : b.np.isStored = true)
    {isPredict : Bool} {mm : Option Nat} {qs : List Vec} {o : Oracle} {g : Rng} :
    (b'.impPredict le isPredict mm qs o g).2 = (b.impPredict le isPredict mm qs o g).2 := by
  have hn : b.np ≠ .none := fun e => by rw [e] at hnp; cases hnp
  rw [impPredict_of_np le b hn, impPredict_of_np le b' (h.np ▸ hn), predictChunk_selPerm h hnp]

/-- The policy selects row by row: up to order, the rows handed to the learning policy are the stored rows passing a test
    `T q` on the single row.  Radius (`radius_rows_filter`) and LSHNearest (`lsh_rows_perm`) do; KNearest does not —
    whether a row is among the `k` nearest depends on the other rows, and on its position when distances tie. -/
def Bandit.SelectsBy (b : Bandit α) (T : Vec → Row α → Bool) : Prop :=
  ∀ q ds ks, ((b.selectIdx q ds ks).1.filterMap fun j => b.hist[j]?).Perm (b.hist.filter (T q)) ∧
    (b.selectIdx q ds ks).1.length = (b.hist.filter (T q)).length

omit [DecidableEq α] in
/-- then storing the rows in another order only reorders the selection -/
theorem SelPerm.of_filter {b b' : Bandit α} (same : b' = { b with hist := b'.hist, tables := b'.tables })
    (perm : b'.hist.Perm b.hist) {T : Vec → Row α → Bool} (h : b.SelectsBy T) (h' : b'.SelectsBy T)
    (tie : ∀ q ds ks, (b'.selectIdx q ds ks).2 = (b.selectIdx q ds ks).2) : SelPerm b b' :=
  ⟨by rw [same], by rw [same], by rw [same], by rw [same],
   fun q ds ks => ((h' q ds ks).1.trans (perm.filter _)).trans (h q ds ks).1.symm,
   fun q ds ks => by rw [(h q ds ks).2, (h' q ds ks).2]; exact (perm.filter _).length_eq, tie⟩

theorem HistPerm.selPerm {b b' : Bandit α} (hp : HistPerm b b') {r : Rat} {m : Metric} {pr : Option (List Rat)}
    (hnp : b.np = .radius r m pr) (hm : m ≠ .oracle) : SelPerm b b' :=
  have hnp' : b'.np = .radius r m pr := hp.np.trans hnp
  .of_filter (by rw [hp.same]) hp.perm
    (fun q ds ks => (radius_rows_filter b r m pr hnp hm q ds ks).imp List.Perm.of_eq id)
    (fun q ds ks => (radius_rows_filter b' r m pr hnp' hm q ds ks).imp List.Perm.of_eq id)
    fun q ds ks => by rw [selectIdx_radius hnp, selectIdx_radius hnp']

set_option linter.unusedVariables false in
/-- **C20 (row order, one query row under Radius).** -/
theorem radius_nhoodRow_perm (le : Expect → Expect → Bool) (b b' : Bandit α) (hp : HistPerm b b') (r : Rat) (m : Metric)
    (pr : Option (List Rat)) (hnp : b.np = .radius r m pr) (hm : m ≠ .oracle) (isPredict : Bool) (lp : LP α) (hg : CFGood lp)
    (i : Nat) (q : Vec) (ds : List Rat) (ks : List Nat) (g : Rng) :
    b'.nhoodRow le isPredict lp i q ds ks g = b.nhoodRow le isPredict lp i q ds ks g :=
  nhoodRow_selPerm (hp.selPerm hnp hm)

set_option linter.unusedVariables false in
/-- **C20 (row order, one worker's chunk under Radius).** -/
theorem radius_predictChunk_perm (le : Expect → Expect → Bool) (b b' : Bandit α) (hp : HistPerm b b') (r : Rat) (m : Metric)
    (pr : Option (List Rat)) (hnp : b.np = .radius r m pr) (hm : m ≠ .oracle) (hg : CFGood b.lp) (isPredict : Bool)
    (qs : List Vec) (start : Nat) (o : Oracle) (g : Rng) :
    b'.predictChunk le isPredict qs start o g = b.predictChunk le isPredict qs start o g :=
  predictChunk_selPerm (hp.selPerm hnp hm) (hnp ▸ rfl)

set_option linter.unusedVariables false in
/-- **C20 (row order, queries under Radius).** -/
theorem radius_impPredict_perm (le : Expect → Expect → Bool) (b b' : Bandit α) (hp : HistPerm b b') (r : Rat) (m : Metric)
    (pr : Option (List Rat)) (hnp : b.np = .radius r m pr) (hm : m ≠ .oracle) (hg : CFGood b.lp) (isPredict : Bool)
    (mm : Option Nat) (qs : List Vec) (o : Oracle) (g : Rng) :
    (b'.impPredict le isPredict mm qs o g).2 = (b.impPredict le isPredict mm qs o g).2 ∧
      HistPerm (b.impPredict le isPredict mm qs o g).1 (b'.impPredict le isPredict mm qs o g).1 := by
  have hn : b.np ≠ .none := by simp [hnp]
  refine ⟨impPredict_selPerm (hp.selPerm hnp hm) (hnp ▸ rfl), ?_⟩
  rw [impPredict_of_np le b hn, impPredict_of_np le b' (hp.np ▸ hn)]
  exact hp

/-- training keeps the two bandits equal up to the order of the stored rows, when each call receives the same
    observations in any order -/
theorem radius_impFit_perm (b b' : Bandit α) (hp : HistPerm b b') (r : Rat) (m : Metric) (pr : Option (List Rat))
    (hnp : b.np = .radius r m pr) (hg : CFGood b.lp) (batch batch' : Batch α) (hb : batch'.Perm batch) (o o' : Oracle) (g : Rng) :
    HistPerm (b.impFit batch o g).1 (b'.impFit batch' o' g).1 ∧ (b'.impFit batch' o' g).2 = (b.impFit batch o g).2 ∧
      (b.impFit batch o g).1.lp = b.lp ∧ (b.impFit batch o g).1.np = b.np := by
  simp only [Bandit.impFit, hnp, hp.np.trans hnp, hp.lp, npBinarize_of_binz_none b.lp hg.noBinz]
  exact ⟨⟨by rw [hp.same], hb⟩, trivial, trivial, trivial⟩

theorem radius_impPartialFit_perm (b b' : Bandit α) (hp : HistPerm b b') (r : Rat) (m : Metric) (pr : Option (List Rat))
    (hnp : b.np = .radius r m pr) (hg : CFGood b.lp) (batch batch' : Batch α) (hb : batch'.Perm batch) (o o' : Oracle) (g : Rng) :
    HistPerm (b.impPartialFit batch o g).1 (b'.impPartialFit batch' o' g).1 ∧
      (b'.impPartialFit batch' o' g).2 = (b.impPartialFit batch o g).2 ∧
      (b.impPartialFit batch o g).1.lp = b.lp ∧ (b.impPartialFit batch o g).1.np = b.np := by
  simp only [Bandit.impPartialFit, hnp, hp.np.trans hnp, hp.lp, npBinarize_of_binz_none b.lp hg.noBinz]
  exact ⟨⟨by rw [hp.same], hp.perm.append hb⟩, trivial, trivial, trivial⟩

/-- **C20 (row order under Radius, end to end).**  Fit on any permutation of the data, then continue with partial
    fits each of which receives any permutation of its batch: every later `predict` / `predict_expectations` returns
    exactly what it returns for the original order (same outputs, same sampler requests). -/
theorem radius_row_order (le : Expect → Expect → Bool) (b : Bandit α) (r : Rat) (m : Metric) (pr : Option (List Rat))
    (hnp : b.np = .radius r m pr) (hm : m ≠ .oracle) (hg : CFGood b.lp)
    (batch batch' : Batch α) (hb : batch'.Perm batch) (more : List (Batch α × Batch α)) (hmore : ∀ p ∈ more, p.2.Perm p.1)
    (o : Oracle) (g : Rng) (isPredict : Bool) (mm : Option Nat) (qs : List Vec) (oq : Oracle) (gq : Rng) :
    ((more.foldl (fun acc p => (acc.impPartialFit p.2 o g).1) (b.impFit batch' o g).1).impPredict le isPredict mm qs oq gq).2 =
      ((more.foldl (fun acc p => (acc.impPartialFit p.1 o g).1) (b.impFit batch o g).1).impPredict le isPredict mm qs oq gq).2 := by
  obtain ⟨h1, _, h3, h4⟩ := radius_impFit_perm b b ⟨rfl, List.Perm.refl _⟩ r m pr hnp hg batch batch' hb o o g
  obtain ⟨k1, k2, k3⟩ := List.foldl_rel (l := more)
    (r := fun c c' : Bandit α => HistPerm c c' ∧ c.np = .radius r m pr ∧ CFGood c.lp)
    (f := fun acc p => (acc.impPartialFit p.1 o g).1) (g := fun acc p => (acc.impPartialFit p.2 o g).1)
    ⟨h1, h4.trans hnp, h3 ▸ hg⟩ (fun p hp c c' ⟨c1, c2, c3⟩ => by
      obtain ⟨s1, _, s3, s4⟩ := radius_impPartialFit_perm c c' c1 r m pr c2 c3 p.1 p.2 (hmore p hp) o o g
      exact ⟨s1, s4.trans c2, s3 ▸ c3⟩)
  exact (radius_impPredict_perm le _ _ k1 r m pr k2 hm k3 isPredict mm qs oq gq).1

end Mab
