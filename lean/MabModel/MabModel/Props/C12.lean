/-
  C12 — Clusters and TreeBandit condition on exactly the query's cell (for every cell-assignment
  oracle: what k-means / CART compute is trusted).  This file: Clusters; TreeBandit is in C12b.
-/
import MabModel.Props.C07
import MabModel.Lemmas.Store
open Py

namespace Mab
variable {α : Type} [DecidableEq α]

/-- the stored rows that the labelling puts into cluster `c` -/
def rowsOfCell (hist : Batch α) (labels : List Nat) (c : Nat) : Batch α :=
  (List.zip hist labels).filterMap fun rl => if rl.2 = c then some rl.1 else none

/-- **C12 (Clusters, training).**  After `fit` / `partial_fit` the policy of cluster `c` is the previous
    policy object of that cluster `fit` on exactly the stored rows labelled `c` (all of them, nothing
    else), for every labelling the clusterer returns. -/
theorem clusters_cell_rows (b : Bandit α) (labels : List Nat) (w : Option Nat) (c : Nat) (hc : c < b.lps.length) :
    (clustersFitOp b labels w).lps[c]? = some ((b.lps[c]'hc).fit (rowsOfCell b.hist labels c) w) := by
  simp only [clustersFitOp, rowsOfCell]
  rw [List.getElem?_map]
  have : (b.lps.zipIdx)[c]? = some (b.lps[c]'hc, c) := by
    rw [List.getElem?_zipIdx]
    simp [List.getElem?_eq_getElem hc]
  rw [this]
  rfl

/-- … and because `fit` discards everything (C07), that is the policy a *freshly constructed* object
    with the same configuration gets from those rows. -/
theorem clusters_cell_from_scratch (b : Bandit α) (labels : List Nat) (w : Option Nat) (c : Nat)
    (hc : c < b.lps.length) (fresh : LP α) (hcfg : SameConfig (b.lps[c]'hc) fresh) (hr : (b.lps[c]'hc).kind ≠ .random) :
    (clustersFitOp b labels w).lps[c]? = some (fresh.fit (rowsOfCell b.hist labels c) w) := by
  rw [clusters_cell_rows b labels w c hc, fit_discards _ _ _ _ hcfg hr]

/-- `partial_fit` re-labels and re-trains on the *whole* accumulated history -/
theorem clusters_partial_hist (b : Bandit α) (n : Nat) (hnp : b.np = .clusters n) (batch : Batch α) (o : Oracle) (g : Rng)
    (hbz : ∀ l ∈ b.lps, l.binz = none) (hbz0 : b.lp.binz = none) :
    (b.impPartialFit batch o g).1.hist = b.hist ++ batch ∧ (b.impPartialFit batch o g).1.labels = o.labels := by
  have h0 : (b.lps.headD b.lp).binz = none := by
    cases hl : b.lps with
    | nil => exact hbz0
    | cons x t => exact hbz x (by rw [hl]; exact List.mem_cons_self)
  simp only [Bandit.impPartialFit, hnp, npBinarize_of_binz_none _ h0, clustersFitOp]
  exact ⟨trivial, trivial⟩

/-- **C12 (Clusters, query).**  A query row is answered by the policy of the cluster the oracle assigns
    to it (with the row's own generator), and by no other. -/
theorem clusters_query_cell (le : Expect → Expect → Bool) (b : Bandit α) (n : Nat) (hnp : b.np = .clusters n)
    (q : Vec) (o : Oracle) (g : Rng) :
    (b.predictChunk le false [q] 0 o g).1 =
      [.inl ((({ (b.lps.getD (o.cells.getD 0 0) default) with
                  st := (b.lps.getD (o.cells.getD 0 0) default).st.mapKV fun _ r => { r with rngPriv := false } } : LP α).predictExp
                (some 1) [q] (.row 0) g).2.1.toList.headD [])] := by
  simp only [Bandit.predictChunk, hnp]
  rfl

end Mab
