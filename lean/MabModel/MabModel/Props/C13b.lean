/-
  C13 (continued) — the set of warm-started arms grows monotonically with the quantile
  (numpy's linear-interpolation quantile is monotone on [0,1]) and repeating the call changes nothing.
-/
import MabModel.Props.C13
import Mathlib.Algebra.Order.Ring.Rat
import Mathlib.Algebra.Order.Floor.Ring
import Mathlib.Data.Rat.Floor
import Mathlib.Data.List.GetD
import Mathlib.Data.List.Sort
open Py

namespace Mab
variable {α : Type} [DecidableEq α]

theorem insertSorted_eq (x : Rat) (l : List Rat) : insertSorted x l = List.orderedInsert (· ≤ ·) x l := by
  induction l with
  | nil => rfl
  | cons y ys ih => simp only [insertSorted, List.orderedInsert, ih]

theorem sortRat_eq (l : List Rat) : sortRat l = List.insertionSort (· ≤ ·) l :=
  congrArg (fun f => List.foldr f [] l) (funext₂ insertSorted_eq)

theorem sortRat_perm (l : List Rat) : (sortRat l).Perm l := sortRat_eq l ▸ List.perm_insertionSort _ l

theorem sortRat_sorted (l : List Rat) : (sortRat l).Pairwise (· ≤ ·) := sortRat_eq l ▸ List.pairwise_insertionSort _ l

theorem sorted_getD_mono (s : List Rat) (hs : s.Pairwise (· ≤ ·)) (i j : Nat) (hij : i ≤ j) (hj : j < s.length) :
    s.getD i 0 ≤ s.getD j 0 := by
  rcases Nat.eq_or_lt_of_le hij with e | e
  · subst e; exact le_refl _
  · have hi : i < s.length := lt_trans e hj
    rw [List.getD_eq_getElem (l := s) (d := 0) hi, List.getD_eq_getElem (l := s) (d := 0) hj]
    exact List.pairwise_iff_getElem.mp hs i j hi hj e

/-- the point at fraction `t` of the segment from entry `i` to its successor (to itself at the last entry) -/
def segAt (s : List Rat) (i : Nat) (t : Rat) : Rat :=
  s.getD i 0 + (s.getD (i + 1) (s.getD i 0) - s.getD i 0) * t

theorem segAt_ends (s : List Rat) (hs : s.Pairwise (· ≤ ·)) (i : Nat) :
    s.getD i 0 ≤ s.getD (i + 1) (s.getD i 0) ∧ ∀ j, i < j → j < s.length → s.getD (i + 1) (s.getD i 0) ≤ s.getD j 0 := by
  by_cases hi : i + 1 < s.length
  · rw [List.getD_eq_getElem _ _ hi, ← List.getD_eq_getElem _ (0 : Rat) hi]
    exact ⟨sorted_getD_mono s hs i (i + 1) (Nat.le_succ i) hi, fun j hij hj => sorted_getD_mono s hs (i + 1) j hij hj⟩
  · rw [List.getD_eq_default _ _ (not_lt.mp hi)]
    exact ⟨le_rfl, fun j hij hj => absurd (lt_of_le_of_lt hij hj) hi⟩

theorem segAt_mono (s : List Rat) (hs : s.Pairwise (· ≤ ·)) (i : Nat) (t t' : Rat) (h : t ≤ t') :
    segAt s i t ≤ segAt s i t' :=
  add_le_add_right (mul_le_mul_of_nonneg_left h (sub_nonneg.mpr (segAt_ends s hs i).1)) _

theorem segAt_zero (s : List Rat) (i : Nat) : segAt s i 0 = s.getD i 0 := by
  rw [segAt, mul_zero, add_zero]

theorem segAt_one (s : List Rat) (i : Nat) : segAt s i 1 = s.getD (i + 1) (s.getD i 0) := by
  rw [segAt, mul_one, add_sub_cancel]

/-- the linear-interpolation value at position `pos` of a sorted sample -/
def interpAt (s : List Rat) (pos : Rat) : Rat := segAt s ⌊pos⌋₊ (pos - ⌊pos⌋₊)

/-- Within one segment the value grows with the fraction; across segments it passes through the
    entries in between, which are sorted. -/
theorem interpAt_mono (s : List Rat) (hs : s.Pairwise (· ≤ ·)) (p p' : Rat) (h0 : 0 ≤ p) (hpp : p ≤ p')
    (hn : p' ≤ (s.length : Rat) - 1) : interpAt s p ≤ interpAt s p' := by
  unfold interpAt
  have h0' := h0.trans hpp
  have hlo'n : ⌊p'⌋₊ < s.length := (Nat.floor_lt h0').mpr (hn.trans_lt (sub_one_lt _))
  rcases Nat.eq_or_lt_of_le (Nat.floor_le_floor hpp) with e | e
  · rw [← e]; exact segAt_mono s hs _ _ _ (sub_le_sub_right hpp _)
  · calc _ ≤ segAt s ⌊p⌋₊ 1 := segAt_mono s hs _ _ _ (sub_le_iff_le_add'.mpr (Nat.lt_floor_add_one p).le)
      _ = _ := segAt_one s _
      _ ≤ s.getD ⌊p'⌋₊ 0 := (segAt_ends s hs _).2 _ e hlo'n
      _ = segAt s ⌊p'⌋₊ 0 := (segAt_zero s _).symm
      _ ≤ _ := segAt_mono s hs _ _ _ (sub_nonneg.mpr (Nat.floor_le h0'))

theorem quantileLin_eq (xs : List Rat) (q : Rat) (h : xs ≠ []) :
    quantileLin xs q = some (interpAt (sortRat xs) (q * (((sortRat xs).length : Rat) - 1))) := by
  unfold quantileLin
  cases hs : sortRat xs with
  | nil => exact absurd ((sortRat_perm xs).symm.trans (hs ▸ .refl _)).eq_nil h
  | cons a t => rw [interpAt, ← Int.floor_toNat]; rfl

/-- **numpy's linear-interpolation quantile is monotone in `q`** on `[0, 1]`. -/
theorem quantileLin_mono (xs : List Rat) (q q' : Rat) (h0 : 0 ≤ q) (hqq : q ≤ q') (h1 : q' ≤ 1) (t t' : Rat)
    (h : quantileLin xs q = some t) (h' : quantileLin xs q' = some t') : t ≤ t' := by
  have hne : xs ≠ [] := by
    intro e; subst e; exact nomatch h
  rw [quantileLin_eq xs q hne, Option.some.injEq] at h
  rw [quantileLin_eq xs q' hne, Option.some.injEq] at h'
  subst h h'
  have hn : (0 : Rat) ≤ ((sortRat xs).length : Rat) - 1 := by
    have : 1 ≤ (sortRat xs).length := by
      rw [(sortRat_perm xs).length_eq]; exact List.length_pos_iff.mpr hne
    exact sub_nonneg.mpr (by exact_mod_cast this)
  exact interpAt_mono _ (sortRat_sorted xs) _ _ (mul_nonneg h0 hn) (mul_le_mul_of_nonneg_right hqq hn)
    ((mul_le_mul_of_nonneg_right h1 hn).trans_eq (one_mul _))

theorem quantileLin_isSome_indep (xs : List Rat) (q q' : Rat) :
    (quantileLin xs q).isSome = (quantileLin xs q').isSome := by
  cases xs with
  | nil => rfl
  | cons x xs =>
    rw [quantileLin_eq _ q (List.cons_ne_nil x xs), quantileLin_eq _ q' (List.cons_ne_nil x xs), Option.isSome_some,
      Option.isSome_some]

/-- **C13 (monotone in the quantile).**  For `0 ≤ q ≤ q' ≤ 1` every pair (cold arm, source arm) that
    `warm_start` acts on with quantile `q` is also acted on — with the same source — with quantile
    `q'`, in the same order: the set of warm-started arms grows monotonically with the quantile. -/
theorem ws_monotone_in_quantile (s : LP α) (keys : List α) (raw : α → α → Option Rat) (q q' : Rat)
    (h0 : 0 ≤ q) (hqq : q ≤ q') (h1 : q' ≤ 1) (m m' : List (α × α))
    (h : s.coldToWarm keys raw q = some m) (h' : s.coldToWarm keys raw q' = some m') :
    m.Sublist m' := by
  rw [coldToWarm_eq, Option.map_eq_some_iff] at h h'
  obtain ⟨thr, ht, rfl⟩ := h
  obtain ⟨thr', ht', rfl⟩ := h'
  -- the quantile enters through the threshold only, and a larger threshold admits more pairs
  have hle : thr ≤ thr' := quantileLin_mono _ q q' h0 hqq h1 thr thr' ht ht'
  refine filterMap_sublist_filterMap _ _ _ fun c p hp => ?_
  obtain ⟨e, harg, hd⟩ := pickWarm_some.mp hp
  exact pickWarm_some.mpr ⟨e, harg, hd.trans hle⟩

/-- whether `warm_start` raises (no finite closest distance) does not depend on the quantile -/
theorem ws_raises_indep (s : LP α) (keys : List α) (raw : α → α → Option Rat) (q q' : Rat) :
    (s.coldToWarm keys raw q).isSome = (s.coldToWarm keys raw q').isSome := by
  rw [coldToWarm_eq, coldToWarm_eq, Option.isSome_map, Option.isSome_map]
  exact quantileLin_isSome_indep _ q q'

/-- the status flags and means of every arm, in dictionary order -/
def LP.flagView (s : LP α) : List (α × Bool × Rat) := s.st.map fun p => (p.1, p.2.trained, p.2.mean)

set_option linter.unusedVariables false in
theorem copyOne_flagView (s : LP α) (p : α × α) (hk : ∀ src dst : ArmSt α, (copyRec s.kind src dst).trained = dst.trained) :
    (s.copyOne p).st.map (fun x => (x.1, x.2.trained)) = s.st.map (fun x => (x.1, x.2.trained)) :=
  copyOne_view (·.trained) copyRec_trained s p

theorem warmed_cold (s : LP α) (m : List (α × α)) (hnd : (m.map (·.1)).Nodup) (a : α) (ha : a ∈ (s.warmed m).coldArms) :
    a ∈ s.coldArms ∧ a ∉ m.map (·.1) := by
  rw [cold_arms_spec, warmed_arms] at ha
  obtain ⟨harm, r, hr, htr, hw⟩ := ha
  have hnot : a ∉ m.map (·.1) := by
    -- a target carries the warm flag afterwards
    intro hin
    obtain ⟨p, hp, rfl⟩ := List.mem_map.mp hin
    have := markWarm_get_target m (s.copyArms m) hnd p hp
    rw [← LP.warmed, hr] at this
    obtain ⟨r2, _, e⟩ := Option.map_eq_some_iff.mp this.symm
    rw [← e] at hw
    exact nomatch hw
  refine ⟨(cold_arms_spec s a).mpr ⟨harm, ?_⟩, hnot⟩
  have h := warmed_get_other (fun r => (r.trained, r.warm)) m s
    (fun _ _ => expRec_view (fun r => (r.trained, r.warm)) (fun _ _ => rfl) ..) a hnot
  rw [hr, Option.map_some] at h
  obtain ⟨r0, hr0, e⟩ := Option.map_eq_some_iff.mp h.symm
  exact ⟨r0, hr0, (congrArg Prod.fst e).trans htr, (congrArg Prod.snd e).trans hw⟩

/-- a second call finds nothing to do -/
theorem warmed_coldToWarm (s : LP α) (keys : List α) (raw : α → α → Option Rat) (q : Rat) (m : List (α × α))
    (hwf : s.WF) (hm : s.coldToWarm keys raw q = some m) : (s.warmed m).coldToWarm keys raw q = some [] := by
  have hnd : (m.map (·.1)).Nodup := (coldToWarm_targets s keys raw q m hm).nodup (hwf.nodup.filter _)
  rw [coldToWarm_eq] at hm ⊢
  obtain ⟨thr, hthr, hm⟩ := Option.map_eq_some_iff.mp hm
  rw [hthr, Option.map_some, warmed_trainedArms]
  refine congrArg some (List.filterMap_eq_nil_iff.mpr fun c hc => ?_)
  obtain ⟨hc1, hc2⟩ := warmed_cold s m hnd c hc
  -- had the first call picked a source for `c`, `c` would be among its targets
  cases hp : pickWarm s.trainedArms raw thr c with
  | none => rfl
  | some p =>
    refine absurd (List.mem_map.mpr ⟨p, ?_, (pickWarm_some.mp hp).1⟩) hc2
    rw [← hm]; exact List.mem_filterMap.mpr ⟨c, hc1, hp⟩

/-- **C13 (repeating the call changes nothing).**  If `warm_start` succeeds and yields `s'`, calling
    it again on `s'` with the same features and quantile succeeds and yields `s'` itself. -/
theorem ws_idempotent (s s' : LP α) (keys : List α) (raw : α → α → Option Rat) (q : Rat)
    (hwf : s.WF) (h : s.warmStart keys raw q = some s') : s'.warmStart keys raw q = some s' := by
  by_cases hk : s.kind = .random
  · rw [warmStart_random s keys raw q hk, Option.some.injEq] at h
    rw [← h]; exact warmStart_random s keys raw q hk
  · rw [warmStart_eq s keys raw q hk, Option.map_eq_some_iff] at h
    obtain ⟨m, hm, rfl⟩ := h
    rw [warmStart_eq _ keys raw q (fun e => hk ((warmed_sameCfg m s).kind.trans e)),
      warmed_coldToWarm s keys raw q m hwf hm]
    -- with no pairs left the call only reruns the Softmax pass, which `warmed` already ended with
    show some (s.warmed m).expOp = _
    rw [LP.warmed, LP.copyArms, markWarm_expOp, expOp_expOp]

/-! ### non-vacuity: a concrete greedy policy with one trained arm and two cold arms at distances 1 and 3 -/
def exWS : LP Nat :=
  (LP.init (.greedy 0) [0, 1, 2]).fit [{ arm := 0, reward := 1 }, { arm := 0, reward := 0 }]
def exRaw (a b : Nat) : Option Rat :=
  if (a = 0 ∧ b = 1) ∨ (a = 1 ∧ b = 0) then some 1
  else if (a = 0 ∧ b = 2) ∨ (a = 2 ∧ b = 0) then some 3
  else some 4

example : exWS.coldToWarm [0, 1, 2] exRaw 0 = some [(1, 0)] := by decide +kernel
example : exWS.coldToWarm [0, 1, 2] exRaw 1 = some [(1, 0), (2, 0)] := by decide +kernel
example : (exWS.warmStart [0, 1, 2] exRaw 0).isSome = true := by decide +kernel
example : exWS.st.keys = exWS.arms ∧ exWS.arms.Nodup := by decide +kernel

end Mab
