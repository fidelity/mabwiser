/-
  C02 (continued) — from the run-time inverse certificate to the closed form: the list-based matrices of the
  model are read as Mathlib matrices; a certified inverse *is* the matrix inverse, the coefficients are
  (XᵀX + λI)⁻¹ Xᵀy and the unique solution of the normal equations; the LinUCB bonus is xᵀ(XᵀX + λI)⁻¹x.
-/
import MabModel.Props.C02
import Mathlib.LinearAlgebra.Matrix.NonsingularInverse
import Mathlib.Algebra.BigOperators.Fin
import Mathlib.Data.List.GetD
open Py

namespace Mab
open Matrix

/-- a list vector read as a function on `Fin n` -/
def toV (n : Nat) (v : Vec) : Fin n → ℚ := fun i => v.getD i 0
/-- a list-of-rows matrix read as a Mathlib matrix -/
def toM (n m : Nat) (A : Mat) : Matrix (Fin n) (Fin m) ℚ := Matrix.of fun i j => (A.getD i []).getD j 0

def IsMat (n m : Nat) (A : Mat) : Prop := A.length = n ∧ ∀ r ∈ A, r.length = m

/-! ### entries of the list operations

  `getD` with the operation's value on the defaults as default, so that most of these need no bound on the index. -/

theorem getD_zipWith {β γ δ : Type} (f : β → γ → δ) (x : List β) (y : List γ) (hl : x.length = y.length)
    (db : β) (dc : γ) (i : Nat) : (List.zipWith f x y).getD i (f db dc) = f (x.getD i db) (y.getD i dc) := by
  induction x generalizing y i with
  | nil => cases y with
    | nil => rfl
    | cons _ _ => cases hl
  | cons a x ih => cases y with
    | nil => cases hl
    | cons b y => cases i with
      | zero => rfl
      | succ i => exact ih y (Nat.succ.inj hl) i

theorem getD_map_of_lt {β γ : Type} (f : β → γ) (l : List β) (d : γ) {i : Nat} (h : i < l.length) :
    (l.map f).getD i d = f l[i] := by
  rw [List.getD_eq_getElem _ _ (by rwa [List.length_map]), List.getElem_map]

theorem sum_zipWith {β γ : Type} (f : β → γ → ℚ) (db : β) (dc : γ) (n : Nat) (x : List β) (y : List γ)
    (hx : x.length = n) (hy : y.length = n) : (List.zipWith f x y).sum = ∑ i : Fin n, f (x.getD i db) (y.getD i dc) := by
  induction n generalizing x y with
  | zero => rw [List.eq_nil_of_length_eq_zero hx]; rfl
  | succ n ih =>
    match x, y, hx, hy with
    | a :: x, b :: y, hx, hy =>
      rw [List.zipWith_cons_cons, List.sum_cons, ih x y (Nat.succ.inj hx) (Nat.succ.inj hy), Fin.sum_univ_succ]
      rfl

theorem dot_eq (n : Nat) (x y : Vec) (hx : x.length = n) (hy : y.length = n) :
    dot x y = ∑ i : Fin n, toV n x i * toV n y i := sum_zipWith (· * ·) 0 0 n x y hx hy

theorem getD_vsmul (c : ℚ) (x : Vec) (i : Nat) : (vsmul c x).getD i 0 = c * x.getD i 0 := by
  have := List.getD_map x 0 (n := i) (c * ·)
  rwa [mul_zero] at this

theorem getD_vadd (x y : Vec) (hl : x.length = y.length) (i : Nat) : (vadd x y).getD i 0 = x.getD i 0 + y.getD i 0 := by
  have := getD_zipWith (· + ·) x y hl 0 0 i
  rwa [add_zero] at this

/-- entry `j` of `x · B`; `vecMul` reads the width off the first row of `B` -/
theorem getD_vecMul (k m : Nat) (r : Vec) (B : Mat) (hr : r.length = k) (hB : IsMat k m B) (j : Fin m) :
    (vecMul r B).getD j 0 = ∑ l : Fin k, r.getD l 0 * (B.getD l []).getD j 0 := by
  cases B with
  | nil => obtain rfl : 0 = k := hB.1; rfl
  | cons r0 B' =>
    rw [vecMul, getD_map_of_lt _ _ _ (by rw [List.length_range, hB.2 r0 List.mem_cons_self]; exact j.2), List.getElem_range]
    exact sum_zipWith (fun xi (row : List ℚ) => xi * row.getD j 0) 0 [] k r (r0 :: B') hr hB.1

theorem getD_mem_or_nil (A : Mat) (i : Nat) : A.getD i [] ∈ A ∨ A.getD i [] = [] := by
  by_cases h : i < A.length
  · left; rw [List.getD_eq_getElem (l := A) (d := []) h]; exact List.getElem_mem h
  · right; exact List.getD_eq_default (l := A) (d := []) (not_lt.mp h)

theorem row_length {n m : Nat} {A : Mat} (hA : IsMat n m A) (i : Fin n) : (A.getD i []).length = m := by
  have h : (i : Nat) < A.length := by rw [hA.1]; exact i.2
  rw [List.getD_eq_getElem (l := A) (d := []) h]
  exact hA.2 _ (List.getElem_mem h)

theorem toV_mulVec (n m : Nat) (A : Mat) (v : Vec) (hA : IsMat n m A) (hv : v.length = m) :
    toV n (mulVec A v) = (toM n m A) *ᵥ (toV m v) :=
  funext fun i => (List.getD_map A [] fun r => dot r v).trans (dot_eq m _ v (row_length hA i) hv)

theorem mulVec_length (A : Mat) (v : Vec) : (mulVec A v).length = A.length := by simp [mulVec]

theorem toM_matMul (n k m : Nat) (A B : Mat) (hA : IsMat n k A) (hB : IsMat k m B) :
    toM n m (matMul A B) = toM n k A * toM k m B := by
  ext i j
  have hi : (i : Nat) < A.length := i.2.trans_eq hA.1.symm
  show ((matMul A B).getD i []).getD j 0 = _
  rw [matMul, getD_map_of_lt _ A _ hi, ← List.getD_eq_getElem A [] hi, getD_vecMul k m _ B (row_length hA i) hB j]
  rfl

theorem toM_ident (n : Nat) : toM n n (ident n) = 1 := by
  ext i j
  show ((ident n).getD i []).getD j 0 = _
  rw [ident, getD_map_of_lt _ _ _ (by rw [List.length_range]; exact i.2), List.getElem_range,
    getD_map_of_lt _ _ _ (by rw [List.length_range]; exact j.2), List.getElem_range, Matrix.one_apply]
  exact if_congr Fin.ext_iff.symm rfl rfl

theorem isSquare_isMat (n : Nat) (A : Mat) (h : isSquare n A = true) : IsMat n n A := by
  simp only [isSquare, Bool.and_eq_true, beq_iff_eq, List.all_eq_true] at h
  exact ⟨h.1, fun r hr => h.2 r hr⟩

theorem cert_mul_eq_one (A B : Mat) (h : isInverseCert A B = true) :
    IsMat A.length A.length A ∧ IsMat A.length A.length B ∧
    toM A.length A.length A * toM A.length A.length B = 1 := by
  simp only [isInverseCert, Bool.and_eq_true] at h
  obtain ⟨⟨h1, h2⟩, h3⟩ := h
  have hA := isSquare_isMat _ A h1
  have hB := isSquare_isMat _ B h2
  have hmul : matMul A B = ident A.length := eq_of_beq h3
  exact ⟨hA, hB, by rw [← toM_matMul _ _ _ A B hA hB, hmul, toM_ident]⟩

/-- **C02 (the inverse certificate).**  What the driver checks for every fitted arm model —
    `A` and `B` square of the same size and `A · B = I` exactly — makes `B` *the* inverse of `A`. -/
theorem inverse_certificate (A B : Mat) (h : isInverseCert A B = true) :
    IsMat A.length A.length A ∧ IsMat A.length A.length B ∧
    toM A.length A.length B = (toM A.length A.length A)⁻¹ := by
  obtain ⟨hA, hB, hAB⟩ := cert_mul_eq_one A B h
  exact ⟨hA, hB, (Matrix.inv_eq_right_inv hAB).symm⟩

/-- **C02 (normal equations solved, uniquely).**  With a certified inverse, `β = B · Xᵀy` satisfies
    `A β = Xᵀy`, and it is the only vector that does. -/
theorem beta_unique_solution (A B : Mat) (v : Vec) (h : isInverseCert A B = true) (hv : v.length = A.length) :
    (toM A.length A.length A) *ᵥ (toV A.length (mulVec B v)) = toV A.length v ∧
    toV A.length (mulVec B v) = (toM A.length A.length A)⁻¹ *ᵥ (toV A.length v) ∧
    ∀ w : Fin A.length → ℚ, (toM A.length A.length A) *ᵥ w = toV A.length v → w = toV A.length (mulVec B v) := by
  obtain ⟨hA, hB, hAB⟩ := cert_mul_eq_one A B h
  have hBA : toM A.length A.length B * toM A.length A.length A = 1 := mul_eq_one_comm.mp hAB
  rw [toV_mulVec _ _ B v hB hv]
  refine ⟨?_, by rw [Matrix.inv_eq_right_inv hAB], fun w hw => ?_⟩
  · rw [Matrix.mulVec_mulVec, hAB, Matrix.one_mulVec]
  · rw [← hw, Matrix.mulVec_mulVec, hBA, Matrix.one_mulVec]

/-- the same at a size `d` given separately: in `ridge_closed_form` the size `A.length` is that of a term, which cannot
    be `subst`ituted there, while here `A` is a variable and it can -/
theorem cert_solves (A B : Mat) (v : Vec) (d : Nat) (hd : A.length = d) (hv : v.length = d) (h : isInverseCert A B = true) :
    toM d d B = (toM d d A)⁻¹ ∧ toM d d A *ᵥ toV d (mulVec B v) = toV d v ∧
    toV d (mulVec B v) = (toM d d A)⁻¹ *ᵥ toV d v ∧ ∀ w : Fin d → ℚ, toM d d A *ᵥ w = toV d v → w = toV d (mulVec B v) := by
  subst hd
  exact ⟨(inverse_certificate A B h).2.2, beta_unique_solution A B v h hv⟩

theorem toV_vadd (n : Nat) (x y : Vec) (hx : x.length = n) (hy : y.length = n) :
    toV n (vadd x y) = toV n x + toV n y := funext fun i => getD_vadd x y (hx.trans hy.symm) i

theorem toV_vsmul (n : Nat) (c : ℚ) (x : Vec) : toV n (vsmul c x) = c • toV n x :=
  funext fun i => getD_vsmul c x i

theorem vadd_length (x y : Vec) (hx : x.length = y.length) : (vadd x y).length = x.length := by
  simp [vadd, hx]
theorem vsmul_length (c : ℚ) (x : Vec) : (vsmul c x).length = x.length := by simp [vsmul]

theorem isMat_madd (n m : Nat) (A B : Mat) (hA : IsMat n m A) (hB : IsMat n m B) : IsMat n m (madd A B) := by
  refine ⟨by simp [madd, hA.1, hB.1], ?_⟩
  intro r hr
  simp only [madd] at hr
  obtain ⟨i, hi, e⟩ := List.mem_iff_getElem.mp hr
  simp only [List.getElem_zipWith] at e
  rw [← e, vadd_length _ _ (by rw [hA.2 _ (List.getElem_mem _), hB.2 _ (List.getElem_mem _)])]
  exact hA.2 _ (List.getElem_mem _)

theorem toM_madd (n m : Nat) (A B : Mat) (hA : IsMat n m A) (hB : IsMat n m B) :
    toM n m (madd A B) = toM n m A + toM n m B := by
  ext i j
  show ((List.zipWith vadd A B).getD i (vadd [] [])).getD j 0 = _
  rw [getD_zipWith vadd A B (hA.1.trans hB.1.symm), getD_vadd _ _ ((row_length hA i).trans (row_length hB i).symm)]
  rfl

theorem isMat_map {β : Type} (l : List β) (f : β → Vec) (m : Nat) (h : ∀ x ∈ l, (f x).length = m) :
    IsMat l.length m (l.map f) :=
  ⟨List.length_map f, fun r hr => by obtain ⟨x, hx, rfl⟩ := List.mem_map.mp hr; exact h x hx⟩

theorem isMat_outer (x y : Vec) : IsMat x.length y.length (outer x y) :=
  isMat_map x _ _ fun _ _ => List.length_map _

theorem toM_outer (n m : Nat) (x y : Vec) : toM n m (outer x y) = vecMulVec (toV n x) (toV m y) := by
  ext i j
  show ((outer x y).getD i []).getD j 0 = x.getD i 0 * y.getD j 0
  by_cases hi : (i : Nat) < x.length
  · rw [outer, getD_map_of_lt _ x _ hi, List.getD_eq_getElem x _ hi]
    exact getD_vsmul x[i] y j
  · rw [outer, List.getD_eq_default (l := x.map _) _ (by rw [List.length_map]; exact not_lt.mp hi),
      List.getD_eq_default x _ (not_lt.mp hi), zero_mul]; rfl

theorem isMat_ident (n : Nat) : IsMat n n (ident n) := by
  have := isMat_map (List.range n) (fun i => (List.range n).map fun j => if i = j then (1 : ℚ) else 0) n
    fun _ _ => by rw [List.length_map, List.length_range]
  rwa [List.length_range] at this

theorem isMat_msmul (n m : Nat) (c : ℚ) (A : Mat) (hA : IsMat n m A) : IsMat n m (msmul c A) :=
  hA.1 ▸ isMat_map A (vsmul c) m fun r hr => (vsmul_length c r).trans (hA.2 r hr)

theorem toM_msmul (n m : Nat) (c : ℚ) (A : Mat) : toM n m (msmul c A) = c • toM n m A := by
  ext i j
  show ((A.map (vsmul c)).getD i []).getD j 0 = c * (A.getD i []).getD j 0
  rw [show ([] : Vec) = vsmul c [] from rfl, List.getD_map, getD_vsmul]; rfl

/-- `A + Σ x xᵀ`, accumulated row by row, as a matrix identity -/
theorem toM_addGram (d : Nat) (xs : List Vec) : ∀ (A : Mat), IsMat d d A → (∀ x ∈ xs, x.length = d) →
    IsMat d d (addGram A xs) ∧
    toM d d (addGram A xs) = toM d d A + (xs.map fun x => vecMulVec (toV d x) (toV d x)).sum := by
  induction xs with
  | nil => intro A hA _; exact ⟨hA, by simp [addGram]⟩
  | cons x xs ih =>
    intro A hA hx
    have hxl : x.length = d := hx x (by simp)
    have hO : IsMat d d (outer x x) := by have := isMat_outer x x; rwa [hxl] at this
    have hA' := isMat_madd d d A (outer x x) hA hO
    obtain ⟨i1, i2⟩ := ih (madd A (outer x x)) hA' (fun y hy => hx y (List.mem_cons_of_mem _ hy))
    simp only [addGram, List.foldl_cons] at i1 i2 ⊢
    refine ⟨i1, ?_⟩
    rw [i2, toM_madd d d A _ hA hO, toM_outer d d x x, List.map_cons, List.sum_cons, add_assoc]

/-- `v + Σ y·x`, accumulated row by row -/
theorem toV_addXty (d : Nat) (rows : List (Rat × Vec)) : ∀ (v : Vec), v.length = d → (∀ r ∈ rows, r.2.length = d) →
    (addXty v rows).length = d ∧
    toV d (addXty v rows) = toV d v + (rows.map fun r => r.1 • toV d r.2).sum := by
  induction rows with
  | nil => intro v hv _; exact ⟨hv, by simp [addXty]⟩
  | cons r rows ih =>
    intro v hv hr
    have hrl : r.2.length = d := hr r (by simp)
    have hl : (vadd v (vsmul r.1 r.2)).length = d := by
      rw [vadd_length _ _ (by rw [vsmul_length, hv, hrl]), hv]
    obtain ⟨i1, i2⟩ := ih (vadd v (vsmul r.1 r.2)) hl (fun y hy => hr y (List.mem_cons_of_mem _ hy))
    simp only [addXty, List.foldl_cons] at i1 i2 ⊢
    refine ⟨i1, ?_⟩
    rw [i2, toV_vadd d v _ hv (by rw [vsmul_length, hrl]), toV_vsmul d r.1 r.2, List.map_cons, List.sum_cons, add_assoc]

theorem toV_zeroVec (d : Nat) : toV d (zeroVec d) = 0 := by
  funext i
  simp [toV, zeroVec]

/-- **C02 (closed form).**  For an arm of a linear policy with a non-empty observation log of
    `d`-feature rows, whose fitted model passes the inverse certificate the driver checks on every
    run, the coefficients are exactly `β = (λI + Σ x xᵀ)⁻¹ (Σ y·x)` = `(XᵀX + λI)⁻¹ Xᵀy`, the stored
    `A⁻¹` is exactly `(XᵀX + λI)⁻¹`, and `β` is the unique solution of the normal equations. -/
theorem ridge_closed_form {α : Type} [DecidableEq α] (kind : Kind) (hlin : kind.isLinear = true) (N d : Nat) (k1 : Bool)
    (log : List (Rat × Vec)) (hne : log.length ≠ 0) (hw : ∀ r ∈ log, r.2.length = d)
    (hcert : isInverseCert (ridgeOf (α := α) kind N d k1 log).A (ridgeOf (α := α) kind N d k1 log).Ainv = true) :
    let r : ArmSt α := ridgeOf kind N d k1 log
    let G : Matrix (Fin d) (Fin d) ℚ := kind.lam • (1 : Matrix (Fin d) (Fin d) ℚ) + (log.map fun r => vecMulVec (toV d r.2) (toV d r.2)).sum
    let b : Fin d → ℚ := (log.map fun r => r.1 • toV d r.2).sum
    toM d d r.A = G ∧ toM d d r.Ainv = G⁻¹ ∧ toV d r.beta = G⁻¹ *ᵥ b ∧ G *ᵥ toV d r.beta = b ∧
    ∀ w : Fin d → ℚ, G *ᵥ w = b → w = toV d r.beta := by
  intro r G b
  obtain ⟨hA, hX, _, hbeta⟩ := (stat_linear (α := α) kind hlin N d k1 log).2 hne
  obtain ⟨g1, g2⟩ := toM_addGram d (log.map (·.2)) _ (isMat_msmul d d kind.lam _ (isMat_ident d))
    (List.forall_mem_map.mpr hw)
  obtain ⟨x1, x2⟩ := toV_addXty d log (zeroVec d) List.length_replicate hw
  have hG : toM d d r.A = G := by
    rw [show r.A = _ from hA, g2, toM_msmul d d, toM_ident, List.map_map]; rfl
  have hb : toV d r.Xty = b := by rw [show r.Xty = _ from hX, x2, toV_zeroVec, zero_add]
  obtain ⟨c, s1, s2, s3⟩ := cert_solves r.A r.Ainv r.Xty d (hA ▸ g1.1) (hX ▸ x1) hcert
  rw [← show r.beta = _ from hbeta, hG, hb] at s1 s2 s3
  exact ⟨hG, hG ▸ c, s2, s1, s3⟩

theorem vecMul_length (k m : Nat) (r : Vec) (B : Mat) (hB : IsMat k m B) (hk : 0 < k) : (vecMul r B).length = m := by
  cases B with
  | nil => exact absurd hB.1 (Nat.ne_of_lt hk)
  | cons r0 B' => simp [vecMul, hB.2 r0 (by simp)]

/-- **C02 (LinUCB bonus).**  The quantity under the square root of the LinUCB expectation,
    `dot (vecMul x A⁻¹) x` in the model, is `xᵀ (XᵀX + λI)⁻¹ x`. -/
theorem linucb_bonus_quadratic_form (d : Nat) (hd : 0 < d) (x : Vec) (B : Mat) (hx : x.length = d) (hB : IsMat d d B) :
    dot (vecMul x B) x = toV d x ⬝ᵥ (toM d d B *ᵥ toV d x) := by
  rw [dot_eq d _ x (vecMul_length d d x B hB hd) hx, Matrix.dotProduct_mulVec]
  simp only [dotProduct, Matrix.vecMul, toV, toM, Matrix.of_apply]
  apply Finset.sum_congr rfl
  intro j _
  rw [getD_vecMul d d x B hx hB j]

/-! ### non-vacuity: a concrete arm with three observations of two features, λ = 2 -/

def exLog : List (Rat × Vec) := [(1, [1, 2]), (0, [3, 1]), (1, [0, 1])]
example : isInverseCert (ridgeOf (α := Nat) (.linUCB 1 2) 3 2 false exLog).A (ridgeOf (α := Nat) (.linUCB 1 2) 3 2 false exLog).Ainv = true := by
  decide +kernel

example : ((ridgeOf (α := Nat) (.linUCB 1 2) 3 2 false exLog).A == [[12, 5], [5, 8]]) = true ∧
    ((ridgeOf (α := Nat) (.linUCB 1 2) 3 2 false exLog).beta == [-7 / 71, 31 / 71]) = true := by decide +kernel

end Mab
