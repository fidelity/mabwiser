/-
  C09 (continued) — `predict` = arg-max of `predict_expectations` under the neighbourhood policies, row by row:
  from the same policy copy, the same row generator and the same stream position, the row's prediction is the first
  arm attaining the maximum of the row's expectations; the only exceptions are the ones the property names
  (an empty neighbourhood: NaN expectations and an arm drawn from the configured distribution; TreeBandit with
  EpsilonGreedy, whose exploration exists only inside `predict`).
-/
import MabModel.Lemmas.Nhood
open Py

namespace Mab
variable {α : Type} [DecidableEq α]

/-- **C09 (Radius / KNearest / LSHNearest, one row).**  With a non-empty neighbourhood, `predict` returns the arg-max of
    the very expectations `predict_expectations` returns for that row, leaves the worker's policy copy in the same
    state and has consumed the row generator identically. -/
theorem nhoodRow_predict_eq_argmax (le : Expect → Expect → Bool) (b : Bandit α) (lp : LP α) (i : Nat) (q : Vec)
    (ds : List Rat) (ks : List Nat) (g : Rng) (hne : (b.selectIdx q ds ks).1.length > 0) :
    ∃ d, (b.nhoodRow le false lp i q ds ks g).2.1 = .inl d ∧
      (b.nhoodRow le true lp i q ds ks g).2.1 = .inr (argmaxFirst le d, d) ∧
      (b.nhoodRow le true lp i q ds ks g).1 = (b.nhoodRow le false lp i q ds ks g).1 ∧
      (b.nhoodRow le true lp i q ds ks g).2.2 = (b.nhoodRow le false lp i q ds ks g).2.2 := by
  rw [nhoodRow_of_pos hne, nhoodRow_of_pos hne]
  exact ⟨_, rfl, rfl, rfl, rfl⟩

/-- **C09 (empty neighbourhood, the named exception).**  Expectations are the neighbourhood's NaN record and the arm is
    the one the empty-neighbourhood draw selects. -/
theorem nhoodRow_empty (le : Expect → Expect → Bool) (b : Bandit α) (lp : LP α) (i : Nat) (q : Vec)
    (ds : List Rat) (ks : List Nat) (g : Rng) (he : ¬ (b.selectIdx q ds ks).1.length > 0) :
    (b.nhoodRow le false lp i q ds ks g).2.1 = .inl b.npExp ∧
    ∃ a, (b.nhoodRow le true lp i q ds ks g).2.1 = .inr (a, b.npExp) := by
  rw [nhoodRow_of_empty he, nhoodRow_of_empty he]
  exact ⟨rfl, _, rfl⟩

/-- **C09 (TreeBandit, one row; every leaf policy but EpsilonGreedy).** -/
theorem treeRow_predict_eq_argmax (le : Expect → Expect → Bool) (b : Bandit α) (qleaf : List Nat) (g : Rng)
    (hk : ∀ e, b.lp.kind ≠ .greedy e) :
    ∃ d, (b.treeRow le false qleaf g).1 = .inl d ∧ (b.treeRow le true qleaf g).1 = .inr (argmaxFirst le d, d) ∧
      (b.treeRow le true qleaf g).2 = (b.treeRow le false qleaf g).2 := by
  rw [treeRow_eq, treeRow_eq]
  cases hkk : b.lp.kind with
  | greedy e => exact absurd hkk (hk e)
  | _ => exact ⟨_, rfl, rfl, rfl⟩

/-- **C09 (Radius / KNearest / LSHNearest, a worker's chunk).**  When no row of the chunk has an empty neighbourhood,
    `predict` on the chunk is, row by row, the arg-max of what `predict_expectations` returns on the chunk — same policy
    copies along the way, same ties, same sampler requests. -/
theorem nhood_predictChunk_eq_argmax (le : Expect → Expect → Bool) (b : Bandit α)
    (hnp : (∃ r m p, b.np = .radius r m p) ∨ (∃ k m, b.np = .knn k m) ∨ (∃ d t p, b.np = .lsh d t p))
    (qs : List Vec) (start : Nat) (o : Oracle) (g : Rng)
    (hne : ∀ p ∈ qs.zipIdx, (b.selectIdx p.1 (o.dists.getD (start + p.2) []) (o.ksets.getD (start + p.2) [])).1.length > 0) :
    b.predictChunk le true qs start o g =
      ((b.predictChunk le false qs start o g).1.map (toPred le), (b.predictChunk le false qs start o g).2.1,
       (b.predictChunk le false qs start o g).2.2) := by
  rw [predictChunk_eq_chunkFold_all le b true qs start o g hnp, predictChunk_eq_chunkFold_all le b false qs start o g hnp]
  exact (chunkFold_sim Eq (toPred le) le le b b false true o start qs.zipIdx (fun p hp lp _ g e => by
    subst e
    dsimp only
    rw [nhoodRow_of_pos (hne p hp), nhoodRow_of_pos (hne p hp)]
    exact ⟨rfl, rfl⟩) b.lp b.lp [] [] g rfl).2

/-- **C09 (Clusters, a worker's chunk).**  No exception: every row is answered by its cluster's policy, and `predict`
    is the arg-max of that policy's expectations. -/
theorem clusters_predictChunk_eq_argmax (le : Expect → Expect → Bool) (b : Bandit α) (n : Nat) (hnp : b.np = .clusters n)
    (qs : List Vec) (start : Nat) (o : Oracle) (g : Rng) :
    b.predictChunk le true qs start o g =
      ((b.predictChunk le false qs start o g).1.map (toPred le), (b.predictChunk le false qs start o g).2.1,
       (b.predictChunk le false qs start o g).2.2) := by
  rw [predictChunk_eq_clusterFold le b true qs start o g n hnp, predictChunk_eq_clusterFold le b false qs start o g n hnp]
  have h := (clusterFold_sim Eq (toPred le) le le false true o start qs.zipIdx
    (fun p _ lps _ g e => e ▸ ⟨rfl, rfl⟩) b.lps b.lps [] g rfl).2
  rw [Prod.ext_iff] at h
  exact Prod.ext h.1 (Prod.ext rfl h.2)

/-- **C09 (TreeBandit, a worker's chunk; every leaf policy but EpsilonGreedy).** -/
theorem tree_predictChunk_eq_argmax (le : Expect → Expect → Bool) (b : Bandit α) (hnp : b.np = .tree)
    (hk : ∀ e, b.lp.kind ≠ .greedy e) (qs : List Vec) (start : Nat) (o : Oracle) (g : Rng) :
    b.predictChunk le true qs start o g =
      ((b.predictChunk le false qs start o g).1.map (toPred le), (b.predictChunk le false qs start o g).2.1,
       (b.predictChunk le false qs start o g).2.2) :=
  tree_predictChunk_sim (toPred le) le le b b hnp hnp false true (fun ql g => by
    obtain ⟨d, h1, h2, h3⟩ := treeRow_predict_eq_argmax le b ql g hk
    exact Prod.ext (by rw [h2, h1]; rfl) h3) qs start o g

def AllInl (l : List (ExpDict α ⊕ (Option α × ExpDict α))) : Prop := ∀ x ∈ l, ∃ d, x = .inl d

omit [DecidableEq α] in
theorem allInl_nil : AllInl ([] : List (RowOut α)) := fun _ hx => absurd hx List.not_mem_nil

omit [DecidableEq α] in
theorem allInl_append {l : List (RowOut α)} {d : ExpDict α} (h : AllInl l) : AllInl (l ++ [.inl d]) := by
  intro x hx
  rcases List.mem_append.mp hx with h1 | h1
  · exact h x h1
  · exact ⟨d, List.mem_singleton.mp h1⟩

theorem nhoodRow_false_inl (le : Expect → Expect → Bool) (b : Bandit α) (lp : LP α) (i : Nat) (q : Vec)
    (ds : List Rat) (ks : List Nat) (g : Rng) : ∃ d, (b.nhoodRow le false lp i q ds ks g).2.1 = .inl d := by
  by_cases h : (b.selectIdx q ds ks).1.length > 0
  · exact ⟨_, congrArg (·.2.1) (nhoodRow_of_pos h)⟩
  · exact ⟨_, (nhoodRow_empty le b lp i q ds ks g h).1⟩

/-- `predict_expectations` returns one expectation record per row -/
theorem predictChunk_false_allInl (le : Expect → Expect → Bool) (b : Bandit α) (qs : List Vec) (start : Nat) (o : Oracle) (g : Rng) :
    AllInl (b.predictChunk le false qs start o g).1 := by
  have nh : AllInl (chunkFold le b false o start qs.zipIdx (b.lp, [], [], g)).2.1 :=
    List.foldlRecOn (motive := fun (a : LP α × List (RowOut α) × List Bool × Rng) => AllInl a.2.1) _ _ allInl_nil
      fun a h p _ => by
        obtain ⟨d, hd⟩ := nhoodRow_false_inl le b a.1 (start + p.2) p.1 (o.dists.getD (start + p.2) []) (o.ksets.getD (start + p.2) []) a.2.2.2
        simp only [hd]; exact allInl_append h
  cases hnp : b.np with
  | none => simp only [Bandit.predictChunk, hnp]; exact allInl_nil
  | radius | knn | lsh => rw [predictChunk_of_stored (hnp ▸ rfl)]; exact nh
  | clusters n =>
    rw [predictChunk_eq_clusterFold le b false qs start o g n hnp, clusterFold_eq]
    exact List.foldlRecOn (motive := fun (a : List (LP α) × List (RowOut α) × Rng) => AllInl a.2.1) _ _ allInl_nil
      fun a h p _ => allInl_append h
  | tree =>
    simp only [Bandit.predictChunk, hnp]
    exact List.foldlRecOn (motive := fun (a : List (RowOut α) × Rng) => AllInl a.1) _ _ allInl_nil
      fun a h p _ => allInl_append h

omit [DecidableEq α] in
theorem splitOuts_toPred (le : Expect → Expect → Bool) : ∀ (l : List (RowOut α)), AllInl l →
    (splitOuts (l.map (toPred le))).2 = (splitOuts l).1.map (fun d => (argmaxFirst le d, d)) ∧ (splitOuts l).2 = [] ∧
      (splitOuts (l.map (toPred le))).1 = [] := by
  intro l
  induction l with
  | nil => intro _; exact ⟨rfl, rfl, rfl⟩
  | cons x l ih =>
    intro h
    obtain ⟨d, rfl⟩ := h x List.mem_cons_self
    obtain ⟨i1, i2, i3⟩ := ih fun y hy => h y (List.mem_cons_of_mem _ hy)
    exact ⟨congrArg (List.cons _) i1, i2, i3⟩

/-- **C09 (whole bandit, every neighbourhood policy).**  Whenever the chunk-level statement holds — always for
    Clusters and for TreeBandit without EpsilonGreedy, and for Radius / KNearest / LSHNearest when no query row has an
    empty neighbourhood — `predict` returns, row by row, the first arm attaining the maximum of what
    `predict_expectations` returns from the same state and stream position, and issues the same sampler requests. -/
theorem impPredict_eq_argmax (le : Expect → Expect → Bool) (b : Bandit α) (hnp : b.np ≠ .none) (m : Option Nat) (qs : List Vec)
    (o : Oracle) (g : Rng)
    (hchunk : ∀ g', b.predictChunk le true qs 0 o g' =
      ((b.predictChunk le false qs 0 o g').1.map (toPred le), (b.predictChunk le false qs 0 o g').2.1,
       (b.predictChunk le false qs 0 o g').2.2)) :
    (b.impPredict le true m qs o g).2.1.arms = (b.impPredict le false m qs o g).2.1.exps.map (fun d => (argmaxFirst le d, d)) ∧
    (b.impPredict le true m qs o g).2.2 = (b.impPredict le false m qs o g).2.2 ∧
    (b.impPredict le true m qs o g).1 = (b.impPredict le false m qs o g).1 := by
  rw [impPredict_of_np le b hnp true, impPredict_of_np le b hnp false, hchunk]
  obtain ⟨s1, s2, s3⟩ := splitOuts_toPred le _ (predictChunk_false_allInl le b qs 0 o
    (g.draw { stream := .main, kind := .randint, size := qs.length }).2)
  exact ⟨by simp only [s1, Out.unwrap_map (fun d => (argmaxFirst le d, d)) rfl], rfl, rfl⟩

end Mab
