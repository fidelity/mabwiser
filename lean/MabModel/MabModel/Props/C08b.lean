/-
  C08 (continued) — predict_expectations of *every* learning policy (ε-greedy exploring or exploiting, the linear
  policies with exploring rows mixed in) returns dictionaries keyed by the arm list; every operation of a policy
  preserves well-formedness; under Radius / KNearest / LSHNearest every query row returns such a dictionary and a
  predicted arm is a current arm (empty neighbourhoods included).
-/
import MabModel.Props.C08
import MabModel.Lemmas.Norm
import MabModel.Lemmas.Nhood
open Py

namespace Mab
variable {α : Type} [DecidableEq α]

omit [DecidableEq α] in
theorem greedyExplore_keys (arms : List α) (own : Stream) (g : Rng) : Dict.keys (greedyExplore arms own g).1 = arms := by
  unfold greedyExplore
  rw [← List.foldl_hom (fun acc : ExpDict α × Rng => Dict.keys acc.1) (g₂ := fun ks a => ks ++ [a])
    (fun acc a => by simp [Dict.keys])]
  exact (foldl_append_eq_flatMap (fun a => [a]) arms []).trans (by simp)

theorem countTrue_le (mask : List Bool) : (mask.filter id).length ≤ mask.length := List.length_filter_le _ _

set_option linter.unusedSectionVars false in
theorem assembleRows_keys (arms : List α) (randRows : List (List Rat)) (cols : List (List Expect))
    (hcols : cols.length = arms.length) (hrand : ∀ r ∈ randRows, r.length = arms.length) :
    ∀ (mask : List Bool) (ri ni : Nat), ri + (mask.filter id).length ≤ randRows.length →
      ∀ d ∈ assembleRows arms randRows cols mask ri ni, Dict.keys d = arms := by
  intro mask
  induction mask with
  | nil => intro ri ni _ d hd; simp [assembleRows] at hd
  | cons m mask ih =>
    intro ri ni hri d hd
    cases m with
    | true =>
      simp only [assembleRows, List.mem_cons] at hd
      simp only [List.filter_cons, id, if_true, List.length_cons] at hri
      rcases hd with e | e
      · rw [e]
        apply Dict.keys_zip
        have hlt : ri < randRows.length := by omega
        rw [List.length_map, List.getD_eq_getElem?_getD, List.getElem?_eq_getElem hlt, Option.getD_some,
            hrand _ (List.getElem_mem hlt)]
      · exact ih (ri + 1) ni (by omega) d e
    | false =>
      simp only [assembleRows, List.mem_cons] at hd
      simp only [List.filter_cons, id, Bool.false_eq_true, if_false] at hri
      rcases hd with e | e
      · rw [e]
        apply Dict.keys_zip
        rw [List.length_map, hcols]
      · exact ih ri (ni + 1) hri d e

/-- **C08 (ε-greedy).**  Exploiting or exploring, with one row or many, every returned dictionary has the
    arms as keys in arm-list order. -/
theorem predictExp_keys_greedy (s : LP α) (hwf : s.WF) (eps : Rat) (hk : s.kind = .greedy eps) (m : Option Nat)
    (ctxs : List Vec) (own : Stream) (g : Rng) :
    ∀ d ∈ (s.predictExp m ctxs own g).2.1.toList, Dict.keys d = s.arms := by
  intro d hd
  rw [predictExp_greedy s m ctxs own g eps hk] at hd
  split at hd
  · split at hd
    · rw [List.mem_singleton.mp hd]
      exact greedyExplore_keys ..
    · rw [List.mem_singleton.mp hd]; exact (expDict_keys s).trans hwf.keys
  · obtain ⟨pr, hpr, rfl⟩ := List.mem_map.mp hd
    split
    · apply Dict.keys_zip
      rw [List.length_map, chunk_rows s.arms.length (m.getD 1) _ (by rw [draw_length]) pr.2 (List.of_mem_zip hpr).2]
    · exact (expDict_keys s).trans hwf.keys

omit [DecidableEq α] in
theorem assembleRows_length (arms : List α) (randRows : List (List Rat)) (cols : List (List Expect)) :
    ∀ (mask : List Bool) (ri ni : Nat), (assembleRows arms randRows cols mask ri ni).length = mask.length
  | [], _, _ => rfl
  | true :: t, ri, ni => congrArg (· + 1) (assembleRows_length arms randRows cols t (ri + 1) ni)
  | false :: t, ri, ni => congrArg (· + 1) (assembleRows_length arms randRows cols t ri (ni + 1))

theorem linearCols_length (s : LP α) (xs : List Vec) (own : Stream) (g : Rng) :
    (s.linearCols xs own g).1.length = s.arms.length := by
  unfold LP.linearCols
  rw [foldl_length_succ]
  · simp
  · intro acc a; split <;> simp

/-- **C08 (linear policies).**  Every dictionary `predict_expectations` returns for a non-empty batch of
    contexts — rows answered by exploration and rows answered by the models alike — has the arms as
    keys in arm-list order. -/
theorem predictExp_keys_linear (s : LP α) (hlin : s.kind.isLinear = true) (m : Option Nat)
    (ctxs : List Vec) (hne : ctxs ≠ []) (own : Stream) (g : Rng) :
    ∀ d ∈ (s.predictExp m ctxs own g).2.1.toList, Dict.keys d = s.arms := by
  intro d hd
  rw [predictExp_linear s m ctxs own g hlin] at hd
  -- one row per context, so there are rows and `Out.unwrap` returns some of them
  have hmem := Out.unwrap_toList_mem _ d hd fun e => hne (List.length_eq_zero_iff.mp (by
    have := congrArg List.length e
    rwa [assembleRows_length, List.length_map, draw_length] at this))
  exact assembleRows_keys s.arms _ _ (linearCols_length ..) (fun r hr => chunk_rows _ _ _ (by rw [draw_length]) r hr)
    _ 0 0 (by rw [chunk_length]; omega) d hmem

/-- **C08 (every learning policy).** -/
theorem predictExp_keys_all (s : LP α) (hwf : s.WF) (m : Option Nat) (ctxs : List Vec)
    (hne : s.kind.isLinear = true → ctxs ≠ []) (own : Stream) (g : Rng) :
    ∀ d ∈ (s.predictExp m ctxs own g).2.1.toList, Dict.keys d = s.arms :=
  s.kind_cases (fun e hk => predictExp_keys_greedy s hwf e hk m ctxs own g)
    (fun a hk => predictExp_keys s hwf m ctxs own g (.inl ⟨a, hk⟩))
    (fun hk => predictExp_keys s hwf m ctxs own g (.inr (.inr (.inr hk))))
    (fun hk => predictExp_keys s hwf m ctxs own g (.inr (.inl hk)))
    (fun hk => predictExp_keys s hwf m ctxs own g (.inr (.inr (.inl hk))))
    (fun hk => predictExp_keys_linear s hk m ctxs (hne hk) own g)

theorem predictExp_one_ne (s : LP α) (q : Vec) (own : Stream) (g : Rng) :
    (s.predictExp (some 1) [q] own g).2.1.toList ≠ [] :=
  s.kind_cases
    (fun e h => by
      rw [predictExp_greedy s _ _ own g e h]
      simp only [Option.getD_some, if_true]
      split <;> exact List.cons_ne_nil _ _)
    (fun a h => by rw [predictExp_ucb s _ _ own g a h]; exact List.cons_ne_nil _ _)
    (fun h => by rw [predictExp_dirichlet s _ _ own g h]; exact List.cons_ne_nil _ _)
    (fun h => by rw [predictExp_thompson s _ _ own g h]; exact List.cons_ne_nil _ _)
    (fun h => by rw [predictExp_random s _ _ own g h]; exact List.cons_ne_nil _ _)
    (fun h => by rw [predictExp_linear s _ _ own g h]; exact Out.unwrap_toList_ne _)

theorem fit_wf (s : LP α) (b : Batch α) (w : Option Nat) (h : s.WF) : (s.fit b w).WF ∧ (s.fit b w).arms = s.arms :=
  (fit_sameCfg s b w).over ⟨h, rfl⟩

theorem partialFit_wf (s : LP α) (b : Batch α) (h : s.WF) : (s.partialFit b).WF ∧ (s.partialFit b).arms = s.arms :=
  (partialFit_sameCfg s b).over ⟨h, rfl⟩

theorem addArm_over {l : LP α} {arms : List α} (hl : l.WF ∧ l.arms = arms) (a : α) (bz : Option (α → Rat → Rat))
    (ha : a ∉ arms) : (l.addArm a bz).WF ∧ (l.addArm a bz).arms = arms ++ [a] := by
  obtain ⟨hw, rfl⟩ := hl
  exact (expOp_sameCfg (l.insertArm a bz)).over ⟨insertArm_wf l a bz hw ha, rfl⟩

theorem removeArm_over {l : LP α} {arms : List α} (hl : l.WF ∧ l.arms = arms) (a : α) :
    (l.removeArm a).WF ∧ (l.removeArm a).arms = arms.filter (· != a) := by
  obtain ⟨hw, rfl⟩ := hl
  exact (dropArm_sameCfg_removeArm l a).over ⟨dropArm_wf l a hw, rfl⟩

theorem addArm_wf (s : LP α) (a : α) (bz : Option (α → Rat → Rat)) (h : s.WF) (ha : a ∉ s.arms) :
    (s.addArm a bz).WF ∧ (s.addArm a bz).arms = s.arms ++ [a] :=
  addArm_over ⟨h, rfl⟩ a bz ha

theorem removeArm_wf (s : LP α) (a : α) (h : s.WF) :
    (s.removeArm a).WF ∧ (s.removeArm a).arms = s.arms.filter (· != a) :=
  removeArm_over ⟨h, rfl⟩ a

theorem warmStart_wf (s s' : LP α) (keys : List α) (raw : α → α → Option Rat) (q : Rat) (h : s.WF)
    (hs : s.warmStart keys raw q = some s') : s'.WF ∧ s'.arms = s.arms :=
  (warmStart_sameCfg s s' keys raw q hs).over ⟨h, rfl⟩

theorem predictExp_wf (s : LP α) (m : Option Nat) (ctxs : List Vec) (own : Stream) (g : Rng) (h : s.WF) :
    (s.predictExp m ctxs own g).1.WF ∧ (s.predictExp m ctxs own g).1.arms = s.arms :=
  (predictExp_sameCfg s m ctxs own g).over ⟨h, rfl⟩

/-- **C08 (Radius / KNearest / LSHNearest).**  For every query row — non-empty or empty neighbourhood,
    `predict` or `predict_expectations` — the expectations have exactly the arms as keys, in arm-list
    order, and a predicted arm is one of them. -/
theorem nhoodRow_keys (le : Expect → Expect → Bool) (b : Bandit α) (isPredict : Bool) (lp : LP α)
    (i : Nat) (q : Vec) (ds : List Rat) (ks : List Nat) (g : Rng) (hwf : lp.WF) (harms : lp.arms = b.arms)
    (hnan : b.npExp.keys = b.arms) :
    match (b.nhoodRow le isPredict lp i q ds ks g).2.1 with
    | .inl d => Dict.keys d = b.arms
    | .inr (a, d) => Dict.keys d = b.arms ∧ ∀ x, a = some x → x ∈ b.arms := by
  by_cases hlen : (b.selectIdx q ds ks).1.length > 0
  · rw [nhoodRow_of_pos hlen]
    have hfw := fit_wf lp ((b.selectIdx q ds ks).1.filterMap fun j => b.hist[j]?) (some q.length) hwf
    -- the one dictionary the re-fit copy returns for the row
    have hD : Dict.keys ((b.nhoodAns lp i q ds ks g).2.1.toList.headD []) = b.arms := by
      cases hl : (b.nhoodAns lp i q ds ks g).2.1.toList with
      | nil => exact absurd hl (predictExp_one_ne _ q (.row i) g)
      | cons x t =>
        exact (predictExp_keys_all _ hfw.1 (some 1) [q] (fun _ => by simp) (.row i) g x
          (by unfold Bandit.nhoodAns at hl; rw [hl]; exact List.mem_cons_self)).trans (hfw.2.trans harms)
    cases isPredict
    · exact hD
    · exact ⟨hD, fun x hx => predict_mem le _ b.arms hD x hx⟩
  · rw [nhoodRow_of_empty hlen]
    cases isPredict
    · exact hnan
    · exact ⟨hnan, fun x hx => List.mem_of_getElem? hx⟩

end Mab
