/-
  C10 — prediction is read-only.
  The model contains the side effect `predict*` really has on a learning policy: `_ThompsonSampling`
  overwrites its `arm_to_expectation` with the last draw.  Everything else a prediction touches in the
  code (deep copies of the policy that are re-fit per row, leaf policies, local dictionaries) is a
  local value in the model; that those copies are really private is what the correspondence and the
  queried-vs-unqueried twin observe.
-/
import MabModel.Lemmas.Norm
import MabModel.Lemmas.Step
open Py

namespace Mab
variable {α : Type} [DecidableEq α]

/-- **C10 (neighbourhood policies).**  Under Radius, KNearest, LSHNearest, Clusters and TreeBandit a
    query returns the bandit unchanged: stored history, tables, planes, cluster policies, leaf
    rewards and the template policy are not touched (workers operate on copies). -/
theorem impPredict_readonly (le : Expect → Expect → Bool) (b : Bandit α) (isPredict : Bool) (m : Option Nat)
    (qs : List Vec) (o : Oracle) (g : Rng) (h : b.np ≠ .none) :
    (b.impPredict le isPredict m qs o g).1 = b := by
  rw [impPredict_state]
  split
  · contradiction
  · rfl

def Bandit.norm (b : Bandit α) : Bandit α := { b with lp := b.lp.norm }

omit [DecidableEq α] in
theorem Bandit.norm_congr (x : Bandit α) (l1 l2 : LP α) (h : l1.norm = l2.norm) :
    ({ x with lp := l1 } : Bandit α).norm = ({ x with lp := l2 } : Bandit α).norm := by
  unfold Bandit.norm; simp only [h]

theorem query_state (le : Expect → Expect → Bool) (b : Bandit α) (a : PredArgs) (p : Bool) (o : Oracle) (g : Rng) :
    ∃ lp, (b.query le a p o g).1 = { b with lp := lp } ∧ lp.norm = b.lp.norm ∧ (b.np ≠ .none → lp = b.lp) := by
  refine query_cases le b a p o g (fun _ => ⟨b.lp, rfl, rfl, fun _ => rfl⟩) ⟨_, impPredict_state le b p _ _ o g, ?_⟩
  split
  · next h => exact ⟨(predictExp_readonly b.lp _ _ .main g).1, fun hn => absurd h hn⟩
  · exact ⟨rfl, fun _ => rfl⟩

theorem query_norm (le : Expect → Expect → Bool) (b : Bandit α) (a : PredArgs) (isPredict : Bool) (o : Oracle) (g : Rng) :
    (b.query le a isPredict o g).1.norm = b.norm := by
  obtain ⟨lp, e, hn, _⟩ := query_state le b a isPredict o g
  rw [e]
  exact Bandit.norm_congr b lp b.lp hn

theorem query_readonly (le : Expect → Expect → Bool) (b : Bandit α) (a : PredArgs) (isPredict : Bool)
    (o : Oracle) (g : Rng) :
    let b' := (b.query le a isPredict o g).1
    b'.arms = b.arms ∧ b'.isFit = b.isFit ∧ b'.hist = b.hist ∧ b'.tables = b.tables ∧ b'.planes = b.planes ∧
    b'.lps = b.lps ∧ b'.leafRewards = b.leafRewards ∧ b'.npExp = b.npExp ∧ b'.lp.norm = b.lp.norm := by
  obtain ⟨lp, e, hn, _⟩ := query_state le b a isPredict o g
  rw [e]
  exact ⟨rfl, rfl, rfl, rfl, rfl, rfl, rfl, rfl, hn⟩

end Mab
