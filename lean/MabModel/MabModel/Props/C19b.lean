/-
  C19b — a copy taken at any point of a history continues exactly as the original would.

  `copy_bisimilar` (C19) compares a copy and its original from the moment of copying.  With `copy_equal` (a deep copy is
  the same value; the `World` model of C04 accounts for what would be shared) the whole-history statement is: the outputs
  of any continuation on the copy are the outputs the original gives for that continuation after the history so far —
  histories compose.
-/
import MabModel.Lemmas.History
open Py

namespace Mab
variable {α : Type} [DecidableEq α]

/-- **C19 (every history).**  Take a copy `c` of the bandit after any history `h₁` (a deep copy or an
    unpickled pickle: the same value).  Whatever calls `h₂` follow, with whatever oracle values and
    draws, the copy returns — call by call: error class, arms, expectations, sampler requests — what
    the original returns for `h₂` after `h₁`, and ends in the same state. -/
theorem copy_any_time (le : Expect → Expect → Bool) (b c : Bandit α) (h₁ h₂ : History α)
    (hc : c = b.runHist le h₁) :
    c.runOuts le h₂ = (b.runOuts le (h₁ ++ h₂)).drop h₁.length ∧
    c.runHist le h₂ = b.runHist le (h₁ ++ h₂) := by
  subst hc
  refine ⟨?_, (runHist_append le h₁ h₂ b).symm⟩
  rw [runOuts_append, ← runOuts_length le h₁ b, List.drop_left]

end Mab
