/-
  C16 (continued) — `default_evaluator`.  The neighbourhood branch, where the substitute statistic is looked
  up per test row (the predicted arm's statistic in that row's neighbourhood, else its training statistic),
  is the general case; the plain branch is the one where every row gets the same substitute.
-/
import MabModel.Props.C16
open Py

namespace Mab
variable {α : Type} [DecidableEq α]

theorem sum_indicator (l : List α) (p : α) : (l.map fun a => if p = a then 1 else 0).sum = l.count p := by
  induction l with
  | nil => rfl
  | cons x l ih =>
    rw [List.map_cons, List.sum_cons, ih, List.count_cons, Nat.add_comm]
    simp only [beq_iff_eq, @eq_comm _ x p]

/-- rows sorted by a key into duplicate-free bins that contain every key: the bin sizes add up -/
theorem count_partition {β : Type} (arms : List α) (hn : arms.Nodup) (key : β → α) :
    ∀ (zs : List β), (∀ z ∈ zs, key z ∈ arms) → ((arms.map fun a => (zs.filter fun z => key z = a).length).sum) = zs.length := by
  intro zs hin
  induction zs with
  | nil => simp
  | cons z zs ih =>
    have hstep : ∀ a, ((z :: zs).filter fun y => key y = a).length =
        (zs.filter fun y => key y = a).length + (if key z = a then 1 else 0) := by
      intro a; rw [List.filter_cons]; by_cases h : key z = a <;> simp [h]
    -- the new row falls into exactly one bin
    simp only [hstep, List.sum_map_add, ih fun y hy => hin y (List.mem_cons_of_mem _ hy), List.length_cons]
    rw [sum_indicator, hn.count, if_pos (hin z List.mem_cons_self)]

theorem creditedBy_length (decisions : List α) (rewards : List Rat) (predictions : List α) (subs : List (α → Rat)) (a : α) :
    (creditedBy decisions rewards predictions subs a).length =
      ((List.zip predictions (List.zip decisions (List.zip rewards subs))).filter fun p => p.1 = a).length := by
  rw [creditedBy, List.length_filterMap_eq_countP, List.countP_eq_length_filter]
  exact congrArg (fun p => (List.filter p _).length) (funext fun p => by split <;> simp [*])

/-- **C16 (evaluated counts, neighbourhood branch).**  Also when the substitute statistic is looked up per
    test row, the evaluated counts over all arms add up to the number of evaluated rows. -/
theorem evaluator_count_total_nn (arms : List α) (hn : arms.Nodup) (decisions : List α) (rewards : List Rat)
    (predictions : List α) (subs : List (α → Rat)) (hin : ∀ p ∈ predictions, p ∈ arms)
    (h1 : predictions.length = decisions.length) (h2 : decisions.length = rewards.length) (h3 : rewards.length = subs.length) :
    ((arms.map fun a => (creditedBy decisions rewards predictions subs a).length).sum) = predictions.length := by
  simp only [creditedBy_length]
  rw [count_partition arms hn (fun (p : α × α × Rat × (α → Rat)) => p.1)]
  · simp [List.length_zip, h1, h2, h3]
  · intro z hz
    exact hin z.1 (List.of_mem_zip hz).1

/-- **C16 (ordered analyses, neighbourhood branch).**  If for every test row the substituted minimum is at
    most the substituted maximum, the per-arm credited sums are ordered. -/
theorem evaluator_ordered_nn (decisions : List α) (rewards : List Rat) (predictions : List α)
    (lo hi : List (α → Rat)) (a : α) (hlen : lo.length = hi.length)
    (h : ∀ p ∈ List.zip lo hi, p.1 a ≤ p.2 a) :
    (creditedBy decisions rewards predictions lo a).sum ≤ (creditedBy decisions rewards predictions hi a).sum := by
  simp only [creditedBy]
  induction predictions generalizing decisions rewards lo hi with
  | nil => simp
  | cons p ps ih =>
    -- when one of the lists has run out both sides are empty
    match decisions, rewards, lo, hi, hlen with
    | [], _, _, _, _ => exact le_rfl
    | _ :: _, [], _, _, _ => exact le_rfl
    | _ :: _, _ :: _, [], [], _ => exact le_rfl
    | d :: ds, r :: rs, l :: ls, u :: us, hlen =>
      have hrest := ih ds rs ls us (Nat.succ.inj hlen) fun q hq => h q (List.mem_cons_of_mem _ hq)
      simp only [List.zip_cons_cons, List.filterMap_cons]
      by_cases hpa : p = a
      · rw [if_pos hpa, if_pos hpa, List.sum_cons, List.sum_cons]
        refine add_le_add ?_ hrest
        split
        · exact le_rfl
        · exact h (l, u) List.mem_cons_self
      · rw [if_neg hpa, if_neg hpa]; exact hrest

theorem credited_eq_replicate (decisions : List α) (rewards : List Rat) (predictions : List α) (train : α → Rat) (a : α) :
    credited decisions rewards predictions train a =
      creditedBy decisions rewards predictions (List.replicate rewards.length train) a := by
  have hz : List.zip rewards (List.replicate rewards.length train) = rewards.map (·, train) := by
    induction rewards with
    | nil => rfl
    | cons r rs ih => rw [List.length_cons, List.replicate_succ, List.zip_cons_cons, ih, List.map_cons]
  rw [creditedBy, hz, List.zip_map_right, List.zip_map_right, List.filterMap_map]
  rfl

set_option linter.unusedVariables false in
theorem credited_eq_creditedBy (decisions : List α) (rewards : List Rat) (predictions : List α) (train : α → Rat) (a : α)
    (h1 : predictions.length ≤ decisions.length) (h2 : decisions.length = rewards.length) :
    credited decisions rewards predictions train a =
      creditedBy decisions rewards predictions (List.replicate rewards.length train) a :=
  credited_eq_replicate decisions rewards predictions train a

/-- **C16 (evaluated counts).**  When every prediction is one of the arms, the counts the default
    evaluator reports over all arms add up to the number of evaluated test rows. -/
theorem evaluator_count_total (arms : List α) (hn : arms.Nodup) (decisions : List α) (rewards : List Rat)
    (predictions : List α) (train : α → Rat) (hin : ∀ p ∈ predictions, p ∈ arms)
    (h1 : predictions.length = decisions.length) (h2 : decisions.length = rewards.length) :
    (((evaluate arms decisions rewards predictions train).map fun q => q.2.length).sum) = predictions.length := by
  simp only [evaluate, List.map_map, Function.comp_def, credited_eq_replicate]
  exact evaluator_count_total_nn arms hn decisions rewards predictions _ hin h1 h2 List.length_replicate.symm

/-- **C16 (ordered analyses).**  Crediting the training minimum, mean or maximum where the prediction
    differs from the logged decision gives per-arm sums ordered `min ≤ mean ≤ max`, whenever the
    training statistics themselves are ordered. -/
theorem evaluator_ordered (decisions : List α) (rewards : List Rat) (predictions : List α) (lo hi : α → Rat) (a : α)
    (h : lo a ≤ hi a) :
    (credited decisions rewards predictions lo a).sum ≤ (credited decisions rewards predictions hi a).sum := by
  rw [credited_eq_replicate, credited_eq_replicate]
  refine evaluator_ordered_nn decisions rewards predictions _ _ a (by simp) fun p hp => ?_
  rw [List.zip_replicate', List.mem_replicate] at hp
  rw [hp.2]; exact h

end Mab
