/-
  C20 (continued) — equivariance under one-to-one relabelling of the arms, machine-checked: every
  training operation commutes with renaming, hence every history does; learned expectations are
  renamed in place and `predict` returns the renamed arm; `warm_start` warm starts the same arms from
  the same sources and raises in the same cases.

  The state of the relabelled policy is the generic renaming `Dict.rekey f (relabelRec f)` of the state, with
  which every dictionary operation commutes; every loop of the model commutes by `List.foldl_hom`, one
  iteration at a time.
-/
import MabModel.Lemmas.WarmStart
import MabModel.Lemmas.Predict
open Py
set_option linter.unusedSectionVars false

namespace Mab
variable {α β : Type} [DecidableEq α] [DecidableEq β]

def relabelRec (f : α → β) (r : ArmSt α) : ArmSt β :=
  { sum := r.sum, cnt := r.cnt, mean := r.mean, exp := r.exp, succ := r.succ, fail := r.fail, trained := r.trained,
    warm := r.warm, warmBy := r.warmBy.map f, inited := r.inited, A := r.A, Xty := r.Xty, Ainv := r.Ainv,
    beta := r.beta, rngPriv := r.rngPriv, mu := r.mu, sc := r.sc }

def relabelDict (f : α → β) (d : Dict α (ArmSt α)) : Dict β (ArmSt β) := d.map fun p => (f p.1, relabelRec f p.2)

/-- the policy with every arm label `a` replaced by `f a` (`finv` is a left inverse of `f`, used to
    transport a binarizer, which takes the arm as an argument) -/
def LP.relabel (f : α → β) (finv : β → α) (s : LP α) : LP β :=
  { kind := s.kind, arms := s.arms.map f, total := s.total, st := relabelDict f s.st,
    binz := s.binz.map fun bz b => bz (finv b), ctxBin := s.ctxBin, numFeatures := s.numFeatures, k1fixed := s.k1fixed }

def relabelBatch (f : α → β) (b : Batch α) : Batch β := b.map fun r => { arm := f r.arm, reward := r.reward, ctx := r.ctx }

def relabelRaw (finv : β → α) (raw : α → α → Option Rat) : β → β → Option Rat := fun x y => raw (finv x) (finv y)

def relabelOp (f : α → β) : LPOp α → LPOp β
  | .fit b w => .fit (relabelBatch f b) w
  | .partialFit b => .partialFit (relabelBatch f b)
  | .addArm a => .addArm (f a)
  | .removeArm a => .removeArm (f a)

theorem relabelBatch_length (f : α → β) (b : Batch α) : (relabelBatch f b).length = b.length := List.length_map _

theorem batchWidth_relabel (f : α → β) (b : Batch α) : batchWidth (relabelBatch f b) = batchWidth b := by
  cases b <;> rfl

theorem batchArms_relabel (f : α → β) (b : Batch α) : batchArms (relabelBatch f b) = (batchArms b).map f := by
  simp only [batchArms, relabelBatch, List.map_map, Function.comp_def]

theorem relabelBatch_ctx (f : α → β) (b : Batch α) : (relabelBatch f b).map (·.ctx) = b.map (·.ctx) := by
  simp only [relabelBatch, List.map_map, Function.comp_def]

theorem relabelBatch_append (f : α → β) (b c : Batch α) : relabelBatch f (b ++ c) = relabelBatch f b ++ relabelBatch f c :=
  List.map_append

/-! ### one arm's record: `relabelRec` touches `warmBy` only, which no update reads or writes -/

theorem fitRec_relabel (f : α → β) (kind : Kind) (N : Nat) (rs : List (Rat × Vec)) (r : ArmSt α) :
    fitRec kind N rs (relabelRec f r) = relabelRec f (fitRec kind N rs r) := by
  rw [fitRec_eq, fitRec_eq]; rfl

theorem freshRec_relabel (f : α → β) (kind : Kind) (nf : Option Nat) (k1 : Bool) :
    relabelRec f (freshRec kind nf k1 : ArmSt α) = (freshRec kind nf k1 : ArmSt β) := by
  unfold freshRec
  split <;> rfl

theorem resetRec_relabel (f : α → β) (kind : Kind) (nf : Option Nat) (k1 : Bool) (r : ArmSt α) :
    resetRec kind nf k1 (relabelRec f r) = relabelRec f (resetRec kind nf k1 r) := by
  have h := freshRec_relabel f kind nf k1
  cases kind with
  | thompson => simp only [resetRec]; rw [← h]; rfl
  | _ => exact h.symm

theorem expRec_relabel (f : α → β) (kind : Kind) (M : List Rat) (r : ArmSt α) :
    expRec kind M (relabelRec f r) = relabelRec f (expRec kind M r) := by
  cases kind <;> rfl

theorem normRec_relabel (f : α → β) (kind : Kind) (P : Rat) (len : Nat) (r : ArmSt α) :
    normRec kind P len (relabelRec f r) = relabelRec f (normRec kind P len r) := by
  unfold normRec
  split
  · split <;> rfl
  · rfl

theorem copyRec_relabel (f : α → β) (kind : Kind) (src dst : ArmSt α) :
    copyRec kind (relabelRec f src) (relabelRec f dst) = relabelRec f (copyRec kind src dst) := by
  unfold copyRec; split <;> rfl

section
variable (f : α → β) (finv : β → α) (hinv : ∀ a, finv (f a) = a)

/-! ### the passes over the whole policy that never look an arm up -/

theorem relabel_kind (s : LP α) : (s.relabel f finv).kind = s.kind := rfl
theorem relabel_arms (s : LP α) : (s.relabel f finv).arms = s.arms.map f := rfl
theorem relabel_st (s : LP α) : (s.relabel f finv).st = Dict.rekey f (relabelRec f) s.st := rfl

theorem vals_relabel {γ : Type} (s : LP α) (pr : ArmSt α → γ) (pr' : ArmSt β → γ)
    (h : ∀ r, pr' (relabelRec f r) = pr r) : (s.relabel f finv).st.vals.map pr' = s.st.vals.map pr := by
  simp only [relabel_st, Dict.vals_rekey, List.map_map, Function.comp_def, h]

theorem relabel_withSt (s : LP α) {d : Dict α (ArmSt α)} {d' : Dict β (ArmSt β)} (h : d' = Dict.rekey f (relabelRec f) d) :
    ({ s.relabel f finv with st := d' } : LP β) = ({ s with st := d } : LP α).relabel f finv :=
  congrArg (fun d => { s.relabel f finv with st := d }) h

theorem relabel_mapKV (s : LP α) {h : α → ArmSt α → ArmSt α} {h' : β → ArmSt β → ArmSt β}
    (hh : ∀ a r, (a, r) ∈ s.st → h' (f a) (relabelRec f r) = relabelRec f (h a r)) :
    ({ s.relabel f finv with st := (s.relabel f finv).st.mapKV h' } : LP β) = ({ s with st := s.st.mapKV h } : LP α).relabel f finv :=
  relabel_withSt f finv s (Dict.mapKV_rekey f _ s.st h h' hh)

theorem expOp_relabel (s : LP α) : (s.relabel f finv).expOp = (s.expOp).relabel f finv := by
  rw [expOp_eq, expOp_eq, show (s.relabel f finv).means = s.means from vals_relabel f finv s (·.mean) (·.mean) fun _ => rfl]
  exact relabel_mapKV f finv s fun _ r _ => expRec_relabel f s.kind s.means r

theorem normalize_relabel (s : LP α) : (s.relabel f finv).normalize = (s.normalize).relabel f finv := by
  rw [normalize_eq, normalize_eq, relabel_arms, List.length_map,
    show (s.relabel f finv).popTotal = s.popTotal from congrArg List.sum (vals_relabel f finv s popMean popMean fun _ => rfl)]
  exact relabel_mapKV f finv s fun _ r _ => normRec_relabel f s.kind _ _ r

theorem resetFor_relabel (s : LP α) (b : Batch α) (w : Option Nat) :
    (s.relabel f finv).resetFor (relabelBatch f b) w = (s.resetFor b w).relabel f finv := by
  have hnf : (s.relabel f finv).nfFor (relabelBatch f b) w = s.nfFor b w := by
    simp only [LP.nfFor, relabel_kind, batchWidth_relabel]; rfl
  simp only [LP.resetFor, hnf]
  simp only [LP.relabel, relabelBatch_length]
  congr 1
  exact Dict.mapKV_rekey f _ s.st _ _ fun a r _ => resetRec_relabel f s.kind _ s.k1fixed r

theorem init_relabel (kind : Kind) (arms : List α) (bz : Option (α → Rat → Rat)) (k1 : Bool) :
    LP.init kind (arms.map f) (bz.map fun g b => g (finv b)) k1 = (LP.init kind arms bz k1).relabel f finv := by
  simp only [LP.init, LP.relabel]
  congr 1
  exact (Dict.rekey_ofFn f _ arms _ _ fun _ _ => (freshRec_relabel f kind none k1).symm).symm

/-! ### the expectations and their first extremum under a renaming of the keys -/

/-- rename the keys of an expectation dictionary (definitionally `Dict.rekey f id`: proofs go through `renameD_eq`
    to the `Dict.*_rekey_id` lemmas) -/
def renameD (f : α → β) (d : ExpDict α) : ExpDict β := d.map fun p => (f p.1, p.2)

theorem renameD_eq (f : α → β) (d : ExpDict α) : renameD f d = Dict.rekey f id d := rfl

/-- the learned expectations are renamed, in the same order, and nothing else changes -/
theorem expDict_relabel (s : LP α) : (s.relabel f finv).expDict = s.expDict.map fun p => (f p.1, p.2) := by
  simp only [LP.expDict, LP.relabel, relabelDict, List.map_map]
  rfl

omit [DecidableEq α] [DecidableEq β] in
theorem foldl_keep_first_map {γ : Type} (R : γ → γ → Prop) [DecidableRel R] (t : List (α × γ)) (x : α × γ) :
    (t.map (Prod.map f id)).foldl (fun acc p => if R p.2 acc.2 then acc else p) (Prod.map f id x) =
      Prod.map f id (t.foldl (fun acc p => if R p.2 acc.2 then acc else p) x) := by
  rw [List.foldl_map]
  exact List.foldl_hom (Prod.map f id) fun acc p => (apply_ite (Prod.map f id) _ _ _).symm

/-- `predict` renames: the first maximiser of the renamed expectations is the renamed first maximiser -/
theorem argmaxFirst_relabel (le : Expect → Expect → Bool) (d : ExpDict α) :
    argmaxFirst le (d.map fun p => (f p.1, p.2)) = (argmaxFirst le d).map f := by
  cases d with
  | nil => rfl
  | cons x t =>
    rw [List.map_cons, argmaxFirst_eq_fold, argmaxFirst_eq_fold]
    exact congrArg (fun r : β × Expect => some r.1) (foldl_keep_first_map f (fun a b => Expect.leWith le a b = true) t x)

theorem argminFirst_relabel (l : List (α × Rat)) :
    argminFirst (l.map fun p => (f p.1, p.2)) = (argminFirst l).map f := by
  cases l with
  | nil => rfl
  | cons x t =>
    rw [List.map_cons, argminFirst_eq_fold, argminFirst_eq_fold]
    exact congrArg (fun r : β × Rat => some r.1) (foldl_keep_first_map f (fun a b : Rat => b ≤ a) t x)

/-! ### from here on arms are looked up, which is where `f` has to be one-to-one -/

include hinv

theorem relabel_get? (s : LP α) (a : α) : (s.relabel f finv).st.get? (f a) = (s.st.get? a).map (relabelRec f) :=
  Dict.get?_rekey (Function.LeftInverse.injective hinv) _ s.st a

theorem rowsOf_relabel (b : Batch α) (a : α) : rowsOf (relabelBatch f b) (f a) = rowsOf b a := by
  simp only [rowsOf, relabelBatch, List.filter_map, List.map_map, Function.comp_def,
    (Function.LeftInverse.injective hinv).eq_iff]

theorem binarize_relabel (s : LP α) (b : Batch α) :
    (s.relabel f finv).binarize (relabelBatch f b) = relabelBatch f (s.binarize b) := by
  unfold LP.binarize
  simp only [LP.relabel]
  cases s.binz with
  | none => rfl
  | some bz =>
    cases s.ctxBin
    · simp only [Option.map_some, relabelBatch, List.map_map, Function.comp_def, hinv]
    · rfl

theorem setTrained_relabel (s : LP α) (b : Batch α) (p : Bool) :
    (s.relabel f finv).setTrained (relabelBatch f b) p = (s.setTrained b p).relabel f finv := by
  refine relabel_mapKV f finv s fun a r _ => ?_
  simp only [relabel_arms, batchArms_relabel, List.mem_map_inj (Function.LeftInverse.injective hinv), apply_ite (relabelRec f)]
  rfl

theorem post_relabel (s : LP α) (b : Batch α) (p : Bool) :
    (s.relabel f finv).post (relabelBatch f b) p = (s.post b p).relabel f finv := by
  unfold LP.post
  rw [expOp_relabel, setTrained_relabel f finv hinv, normalize_relabel]

theorem parallelFit_relabel (s : LP α) (b : Batch α) :
    (s.relabel f finv).parallelFit (relabelBatch f b) = (s.parallelFit b).relabel f finv := by
  simp only [LP.parallelFit, parallelFitIn_eq, relabel_arms, List.foldl_map]
  -- one task per arm: each is a read-modify-write of that arm's record, which commutes with the renaming
  exact relabel_withSt f finv s (List.foldl_hom (Dict.rekey f (relabelRec f)) fun d a => by
    rw [rowsOf_relabel f finv hinv]
    exact Dict.modify_rekey (Function.LeftInverse.injective hinv) _ d a _ _ (fitRec_relabel f s.kind s.total _))

theorem LP.train_relabel (s : LP α) (B : Batch α) (p : Bool) :
    (s.relabel f finv).train (relabelBatch f B) p = (s.train B p).relabel f finv := by
  unfold LP.train
  rw [parallelFit_relabel f finv hinv, post_relabel f finv hinv]

/-- **C20 (relabelling, `fit`).**  Training the relabelled policy on the relabelled batch gives the
    relabelled result — for every policy kind, every batch, every one-to-one relabelling. -/
theorem fit_relabel (s : LP α) (b : Batch α) (w : Option Nat) :
    (s.relabel f finv).fit (relabelBatch f b) w = (s.fit b w).relabel f finv := by
  by_cases hk : s.kind = .random
  · rw [fit_random s b w hk, fit_random (s.relabel f finv) _ w hk]
  · rw [fit_eq_train s b w hk, fit_eq_train (s.relabel f finv) _ w hk, binarize_relabel f finv hinv, resetFor_relabel,
      LP.train_relabel f finv hinv]

theorem partialFit_relabel (s : LP α) (b : Batch α) :
    (s.relabel f finv).partialFit (relabelBatch f b) = (s.partialFit b).relabel f finv := by
  by_cases hk : s.kind = .random
  · rw [partialFit_random s b hk, partialFit_random (s.relabel f finv) _ hk]
  · rw [partialFit_eq_train s b hk, partialFit_eq_train (s.relabel f finv) _ hk, binarize_relabel f finv hinv,
      relabelBatch_length, ← LP.train_relabel f finv hinv]
    rfl

theorem addArm_relabel (s : LP α) (a : α) (bz : Option (α → Rat → Rat)) :
    (s.relabel f finv).addArm (f a) (bz.map fun g b => g (finv b)) = (s.addArm a bz).relabel f finv := by
  unfold LP.addArm
  rw [← expOp_relabel]
  congr 1
  simp only [LP.insertArm, LP.relabel, List.map_append, List.map_cons, List.map_nil]
  congr 1
  · rw [← freshRec_relabel f s.kind s.numFeatures s.k1fixed]
    exact Dict.set_rekey (Function.LeftInverse.injective hinv) _ s.st a _
  · cases s.kind <;> cases bz <;> rfl

theorem removeArm_relabel (s : LP α) (a : α) :
    (s.relabel f finv).removeArm (f a) = (s.removeArm a).relabel f finv := by
  unfold LP.removeArm
  rw [← normalize_relabel, ← expOp_relabel]
  congr 2
  simp only [LP.dropArm, LP.relabel]
  congr 1
  · exact List.filter_ne_map_inj (Function.LeftInverse.injective hinv) s.arms a
  · exact Dict.pop_rekey (Function.LeftInverse.injective hinv) _ s.st a

theorem stepOp_relabel (s : LP α) (op : LPOp α) :
    (s.relabel f finv).stepOp (relabelOp f op) = (s.stepOp op).relabel f finv := by
  cases op with
  | fit b w => exact fit_relabel f finv hinv s b w
  | partialFit b => exact partialFit_relabel f finv hinv s b
  | addArm a =>
    exact ite_hom (List.mem_map_inj (Function.LeftInverse.injective hinv)) rfl (addArm_relabel f finv hinv s a none)
  | removeArm a =>
    exact ite_hom (List.mem_map_inj (Function.LeftInverse.injective hinv)) (removeArm_relabel f finv hinv s a) rfl

/-- **C20 (relabelling, every history).**  For every one-to-one relabelling `f` of the arms, running
    the relabelled history on the relabelled policy gives the relabelled state: every statistic,
    status, model and expectation is the one the original arm has, under the new name, in the same
    order. -/
theorem run_relabel (s : LP α) (ops : List (LPOp α)) :
    (s.relabel f finv).run (ops.map (relabelOp f)) = (s.run ops).relabel f finv := by
  unfold LP.run
  rw [List.foldl_map]
  exact List.foldl_hom (LP.relabel f finv) fun s op => stepOp_relabel f finv hinv s op

/-- **C20 (relabelling, the whole constructor-to-expectations pipeline).** -/
theorem init_run_relabel (kind : Kind) (arms : List α) (bz : Option (α → Rat → Rat)) (k1 : Bool) (ops : List (LPOp α)) :
    ((LP.init kind (arms.map f) (bz.map fun g b => g (finv b)) k1).run (ops.map (relabelOp f))).expDict =
      ((LP.init kind arms bz k1).run ops).expDict.map fun p => (f p.1, p.2) := by
  rw [init_relabel, run_relabel f finv hinv, expDict_relabel]

theorem armDistance_relabel (raw : α → α → Option Rat) (a t : α) :
    armDistance (relabelRaw finv raw) (f a) (f t) = armDistance raw a t := by
  simp only [armDistance, relabelRaw, hinv, (Function.LeftInverse.injective hinv).eq_iff]

theorem distanceThreshold_relabel (keys : List α) (raw : α → α → Option Rat) (q : Rat) :
    distanceThreshold (keys.map f) (relabelRaw finv raw) q = distanceThreshold keys raw q := by
  simp only [distanceThreshold, List.filterMap_map, List.map_map, Function.comp_def, armDistance_relabel f finv hinv]

theorem filter_relabel (s : LP α) (pr : ArmSt α → Bool) (pr' : ArmSt β → Bool) (hp : ∀ r, pr' (relabelRec f r) = pr r) :
    (s.relabel f finv).arms.filter (fun b => (((s.relabel f finv).st.get? b).map pr').getD false) =
      (s.arms.filter fun a => ((s.st.get? a).map pr).getD false).map f := by
  simp only [relabel_arms, List.filter_map, Function.comp_def, relabel_get? f finv hinv, Option.map_map, hp]

theorem trainedArms_relabel (s : LP α) : (s.relabel f finv).trainedArms = s.trainedArms.map f :=
  filter_relabel f finv hinv s (·.trained) (·.trained) fun _ => rfl

theorem coldArms_relabel (s : LP α) : (s.relabel f finv).coldArms = s.coldArms.map f :=
  filter_relabel f finv hinv s (fun r => !r.trained && !r.warm) (fun r => !r.trained && !r.warm) fun _ => rfl

theorem pickWarm_relabel (trained : List α) (raw : α → α → Option Rat) (thr : Rat) (c : α) :
    pickWarm (trained.map f) (relabelRaw finv raw) thr (f c) = (pickWarm trained raw thr c).map fun p => (f p.1, f p.2) := by
  have e1 : (trained.map f).map (fun t => (t, armDistance (relabelRaw finv raw) (f c) t)) =
      (trained.map fun t => (t, armDistance raw c t)).map fun p => (f p.1, p.2) := by
    simp only [List.map_map, Function.comp_def, armDistance_relabel f finv hinv]
  unfold pickWarm
  rw [e1, argminFirst_relabel]
  cases argminFirst (trained.map fun t => (t, armDistance raw c t)) with
  | none => rfl
  | some w => simp only [Option.map_some, armDistance_relabel f finv hinv]; split <;> rfl

theorem coldToWarm_relabel (s : LP α) (keys : List α) (raw : α → α → Option Rat) (q : Rat) :
    (s.relabel f finv).coldToWarm (keys.map f) (relabelRaw finv raw) q =
      (s.coldToWarm keys raw q).map fun m => m.map fun p => (f p.1, f p.2) := by
  rw [coldToWarm_eq, coldToWarm_eq, distanceThreshold_relabel f finv hinv, coldArms_relabel f finv hinv,
    trainedArms_relabel f finv hinv, Option.map_map]
  refine congrArg (Option.map · _) (funext fun thr => ?_)
  rw [Function.comp, List.filterMap_map, List.map_filterMap]
  exact congrArg (List.filterMap · _) (funext fun c => pickWarm_relabel f finv hinv _ raw thr c)

theorem copyOne_relabel (s : LP α) (p : α × α) :
    (s.relabel f finv).copyOne (f p.1, f p.2) = (s.copyOne p).relabel f finv := by
  unfold LP.copyOne
  rw [relabel_get? f finv hinv]
  cases s.st.get? p.2 with
  | none => rfl
  | some src =>
    exact relabel_withSt f finv s
      (Dict.modify_rekey (Function.LeftInverse.injective hinv) _ s.st p.1 _ _ (copyRec_relabel f s.kind src))

theorem copyFold_relabel (m : List (α × α)) (s : LP α) :
    (s.relabel f finv).copyFold (m.map fun p => (f p.1, f p.2)) = (s.copyFold m).relabel f finv := by
  unfold LP.copyFold
  rw [List.foldl_map]
  exact List.foldl_hom (LP.relabel f finv) fun s p => copyOne_relabel f finv hinv s p

theorem markWarm_relabel (m : List (α × α)) (s : LP α) :
    (s.relabel f finv).markWarm (m.map fun p => (f p.1, f p.2)) = (s.markWarm m).relabel f finv := by
  unfold LP.markWarm
  rw [List.foldl_map]
  exact List.foldl_hom (LP.relabel f finv) fun s p => relabel_withSt f finv s
    (Dict.modify_rekey (Function.LeftInverse.injective hinv) _ s.st p.1 _ _ fun _ => rfl)

/-- **C20 (relabelling, `warm_start`).**  Warm starting the relabelled policy with the relabelled feature
    keys (and the same feature vectors, hence the same distances) gives the relabelled result — the same
    arms are warm started, from the same sources — or raises in the same cases. -/
theorem warmStart_relabel (s : LP α) (keys : List α) (raw : α → α → Option Rat) (q : Rat) :
    (s.relabel f finv).warmStart (keys.map f) (relabelRaw finv raw) q =
      (s.warmStart keys raw q).map (LP.relabel f finv) := by
  by_cases hk : s.kind = .random
  · rw [warmStart_random s _ _ _ hk, warmStart_random (s.relabel f finv) _ _ _ hk]; rfl
  · rw [warmStart_eq s _ _ _ hk, warmStart_eq (s.relabel f finv) _ _ _ hk, coldToWarm_relabel f finv hinv]
    cases s.coldToWarm keys raw q with
    | none => rfl
    | some m =>
      simp only [Option.map_some, LP.warmed, LP.copyArms, copyFold_relabel f finv hinv, expOp_relabel, markWarm_relabel f finv hinv]

end

/-! non-vacuity: a relabelling of `Nat` arms with a left inverse, on a history with a removed and re-added arm -/
example : ∀ a : Nat, (fun b => b - 10) ((fun a => a + 10) a) = a := by intro a; simp
example : ((LP.init (.ucb 1) [11, 12, 13]).run
      ((([.fit [{ arm := 1, reward := 1 }, { arm := 2, reward := 0 }], .removeArm 2, .addArm 2,
          .partialFit [{ arm := 3, reward := 1/2 }]] : List (LPOp Nat)).map (relabelOp (· + 10))))).expDict
    = ((LP.init (.ucb 1) [1, 2, 3]).run
        [.fit [{ arm := 1, reward := 1 }, { arm := 2, reward := 0 }], .removeArm 2, .addArm 2,
         .partialFit [{ arm := 3, reward := 1/2 }]]).expDict.map fun p => (p.1 + 10, p.2) := by
  decide +kernel

end Mab
