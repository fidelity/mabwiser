/-
  C19 — copies and pickles of a bandit behave identically to the original (the logical part).
  In the model a bandit *is* its state, so "a faithful copy behaves identically" is determinism of
  `step`; what the World model adds is which objects a copy must duplicate: everything reachable from
  the bandit.  That `copy.deepcopy` and the pickle round trip really deliver such a faithful,
  private duplicate (reduce protocol, default factories, memoised aliasing, functions pickled by
  reference) is runtime behaviour: sampled by the harness at random points of random histories,
  protocols 2..5, also restored in a fresh interpreter.
-/
import MabModel.Props.C04
import MabModel.Core.Facade
open Py

namespace Mab

/-- **C19 (copy bisimilar).**  A faithful copy — an equal state — returns the same outputs, the same new
    state and consumes the random streams identically under every operation, hence under every
    sequence of operations. -/
theorem copy_bisimilar {α : Type} [DecidableEq α] (le : Expect → Expect → Bool) (b c : Bandit α) (h : c = b)
    (ops : List (Op α × Oracle)) (g : Rng) :
    ops.foldl (fun (acc : Bandit α × Rng) p => ((acc.1.step le p.1 p.2 acc.2).1, (acc.1.step le p.1 p.2 acc.2).2.2)) (c, g) =
    ops.foldl (fun (acc : Bandit α × Rng) p => ((acc.1.step le p.1 p.2 acc.2).1, (acc.1.step le p.1 p.2 acc.2).2.2)) (b, g) := by
  rw [h]

/-- **C19 (copy independent).**  With private parameter copies, a bandit created by copying bandit `i` and
    then used arbitrarily (any interleaving of fits and other calls on it and on every other bandit)
    leaves the original's trees — and every other bandit's — built with their own seeds, and vice
    versa: copy and original do not influence each other. -/
theorem copy_independent (pre post : List WOp) (i : Nat) (d0 : Nat) :
    (World.run { shared := false, defaultCell := d0 } (pre ++ [.copy i] ++ post)).Isolated :=
  (noninterference_private _ d0).1

/-- `copy.deepcopy` / unpickling adds a bandit with the very record of the original: seed, own parameters, trees -/
theorem copy_equal (w : World) (i : Nat) (b : WBandit) (h : w.bandits[i]? = some b) :
    (w.step (.copy i)).bandits = w.bandits ++ [b] := by
  simp [World.step, h]

/-- in the shared variant (pinned tree) a copy still reads the one default dictionary: constructing a
    third bandit changes what the copy's next fit sees -/
theorem shared_copy_counterexample :
    ((World.run { shared := true } [.construct 1 true, .copy 0, .construct 9 true, .fit 1]).bandits.map (·.trees)) = [[], [9], []] := by
  decide +kernel

end Mab
