/-
  C07 (continued) — the facade: `fit(D)` on two bandit objects with the same configuration leaves the same stored
  history, hash tables and hyper-planes, cluster labels and cluster policies, leaf stores and stream position,
  whatever either object held before.
-/
import MabModel.Props.C05b
import MabModel.Lemmas.ListPerm
import MabModel.Lemmas.Store
open Py

namespace Mab
variable {α : Type} [DecidableEq α]

/-- two bandit objects with the same configuration: same neighbourhood policy, same arm list, policy
    objects with the same configuration (whatever they have learned), same neutral expectations -/
structure BSame (b b' : Bandit α) : Prop where
  np : b.np = b'.np
  arms : b.arms = b'.arms
  lp : SameCfg b.lp b'.lp
  lps : List.Forall₂ SameCfg b.lps b'.lps
  npExp : b.npExp = b'.npExp

theorem BSame.refl (b : Bandit α) : BSame b b :=
  ⟨rfl, rfl, SameCfg.refl _, List.forall₂_same.mpr fun x _ => SameCfg.refl x, rfl⟩

set_option linter.unusedSectionVars false in
theorem npBinarize_congr (s s' : LP α) (batch : Batch α) (h : SameCfg s s') :
    (npBinarize s batch).2 = (npBinarize s' batch).2 ∧ SameCfg (npBinarize s batch).1 (npBinarize s' batch).1 := by
  rw [npBinarize_eq, npBinarize_eq, h.npConv, h.npConverts, h.ctxBin]
  exact ⟨rfl, h.ctxBin_congr rfl⟩

/-- **C07 (facade, no neighbourhood policy).** -/
theorem impFit_none_congr (b b' : Bandit α) (batch : Batch α) (o : Oracle) (g : Rng) (h : BSame b b')
    (hk : b.np = .none) (hr : b.lp.kind ≠ .random) :
    (b.impFit batch o g).2 = (b'.impFit batch o g).2 ∧
    (b.impFit batch o g).1.lp.norm = (b'.impFit batch o g).1.lp.norm := by
  have hk' : b'.np = .none := h.np ▸ hk
  simp only [Bandit.impFit, hk, hk']
  exact ⟨trivial, fit_norm_congr _ _ _ _ h.lp hr⟩

/-- **C07 (facade, Radius / KNearest).**  The stored history after `fit` is the new data only. -/
theorem impFit_neighbors_congr (b b' : Bandit α) (batch : Batch α) (o : Oracle) (g : Rng) (h : BSame b b')
    (hk : (∃ r m p, b.np = .radius r m p) ∨ (∃ k m, b.np = .knn k m)) :
    (b.impFit batch o g).2 = (b'.impFit batch o g).2 ∧
    (b.impFit batch o g).1.hist = (b'.impFit batch o g).1.hist ∧
    SameCfg (b.impFit batch o g).1.lp (b'.impFit batch o g).1.lp := by
  obtain ⟨bb, hbin⟩ := npBinarize_congr b.lp b'.lp batch h.lp
  rcases hk with ⟨r, m, p, hk⟩ | ⟨k, m, hk⟩ <;>
    (have hk' := h.np ▸ hk
     simp only [Bandit.impFit, hk, hk']
     exact ⟨trivial, bb, hbin⟩)

/-- **C07 (facade, LSHNearest).**  New hyper-planes are drawn from the same stream position, the tables
    are rebuilt from empty tables with the new rows only. -/
theorem impFit_lsh_congr (b b' : Bandit α) (batch : Batch α) (o : Oracle) (g : Rng) (h : BSame b b')
    (d t : Nat) (p : Option (List Rat)) (hk : b.np = .lsh d t p) :
    (b.impFit batch o g).2 = (b'.impFit batch o g).2 ∧
    (b.impFit batch o g).1.hist = (b'.impFit batch o g).1.hist ∧
    (b.impFit batch o g).1.planes = (b'.impFit batch o g).1.planes ∧
    (b.impFit batch o g).1.tables = (b'.impFit batch o g).1.tables ∧
    SameCfg (b.impFit batch o g).1.lp (b'.impFit batch o g).1.lp := by
  obtain ⟨bb, hbin⟩ := npBinarize_congr b.lp b'.lp batch h.lp
  have hk' := h.np ▸ hk
  simp only [Bandit.impFit, hk, hk', lshFitOp, bb, true_and]
  exact hbin

/-- **C07 (facade, TreeBandit).**  The leaf stores are rebuilt from empty stores with the new rows only. -/
theorem impFit_tree_congr (b b' : Bandit α) (batch : Batch α) (o : Oracle) (g : Rng) (h : BSame b b')
    (hk : b.np = .tree) :
    (b.impFit batch o g).2 = (b'.impFit batch o g).2 ∧
    (b.impFit batch o g).1.leafRewards = (b'.impFit batch o g).1.leafRewards ∧
    SameCfg (b.impFit batch o g).1.lp (b'.impFit batch o g).1.lp := by
  obtain ⟨bb, hbin⟩ := npBinarize_congr b.lp b'.lp batch h.lp
  have hk' := h.np ▸ hk
  simp only [Bandit.impFit, hk, hk', treeFitArms, bb, h.arms, true_and]
  exact hbin

/-- **C07 (facade, Clusters).**  Every cluster policy is re-`fit` on the new rows of its (new) cell. -/
theorem impFit_clusters_congr (b b' : Bandit α) (batch : Batch α) (o : Oracle) (g : Rng) (h : BSame b b')
    (n : Nat) (hk : b.np = .clusters n) (hrs : ∀ l ∈ b.lps, l.kind ≠ .random) :
    (b.impFit batch o g).2 = (b'.impFit batch o g).2 ∧
    (b.impFit batch o g).1.hist = (b'.impFit batch o g).1.hist ∧
    (b.impFit batch o g).1.labels = (b'.impFit batch o g).1.labels ∧
    List.Forall₂ (fun x y => x.norm = y.norm) (b.impFit batch o g).1.lps (b'.impFit batch o g).1.lps := by
  have hhead := forall₂_head b.lps b'.lps b.lp b'.lp h.lps h.lp
  obtain ⟨bb2, hbin2⟩ := npBinarize_congr (b.lps.headD b.lp) (b'.lps.headD b'.lp) batch hhead
  have hk' := h.np ▸ hk
  simp only [Bandit.impFit, hk, hk', clustersFitOp, bb2, true_and]
  have hflag : List.Forall₂ (fun x y => x.kind ≠ .random ∧ SameCfg x y)
      (b.lps.map fun l => { l with ctxBin := (npBinarize (b.lps.headD b.lp) batch).1.ctxBin })
      (b'.lps.map fun l => { l with ctxBin := (npBinarize (b'.lps.headD b'.lp) batch).1.ctxBin }) := by
    refine (List.forall₂_and_left _ _).mpr ⟨List.forall_mem_map.mpr hrs, ?_⟩
    rw [List.forall₂_map_left_iff, List.forall₂_map_right_iff]
    exact h.lps.imp fun _ _ hxy => hxy.ctxBin_congr hbin2.ctxBin
  exact forall₂_map_zipIdx _ _ _ _ _ hflag (fun x y i hxy => fit_norm_congr x y _ _ hxy.2 hxy.1) 0

end Mab
