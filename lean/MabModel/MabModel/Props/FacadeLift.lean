/-
  FacadeLift — whole-history theorems of the learning-policy level (C07, C14) read at the public API,
  through `runHist_lp` (C01b): the facade hands the policy exactly the accepted calls.
-/
import MabModel.Props.C01b
import MabModel.Props.C14b
import MabModel.Props.C07
open Py

namespace Mab
variable {α : Type} [DecidableEq α]

/-- **C14 at the facade.**  For a bandit without neighbourhood policy whose policy holds a binarizer, after
    any facade history of training calls (accepted or rejected) the policy is the binarizer-free twin run
    on the trace of accepted calls with every training batch converted exactly once. -/
theorem facade_binarizer_once (le : Expect → Expect → Bool) (h : History α) (b : Bandit α) (hi : BInv b)
    (hnp : b.np = .none) (ht : ∀ c ∈ h, c.1.isTraining = true) :
    (b.runHist le h).lp =
      (b.lp.noBinz.run ((b.lpTrace le h).map (LPOp.binarizeWith b.lp))).withBinz b.lp.binz := by
  rw [runHist_lp le h b hi hnp ht]
  exact run_binarizer_once _ _

/-- **C07 at the facade.**  After any facade history of training calls on a freshly constructed bandit, an
    accepted `fit(D)` leaves the policy in exactly the state a freshly constructed policy with the
    current arm list gets from `fit(D)`: nothing learned before survives. -/
theorem facade_fit_discards (le : Expect → Expect → Bool) (kind : Kind) (arms : List α) (k1 : Bool) (hn : arms.Nodup)
    (h : History α) (ht : ∀ c ∈ h, c.1.isTraining = true) (a : TrainArgs α) (o : Oracle) (g : Rng)
    (hts : kind ≠ .thompson) (hr : kind ≠ .random) (hlin : kind.isLinear = false)
    (hacc : ((((Bandit.init arms kind .none none k1).runHist le h).step le (.fit a) o g).2.1.err).isSome = false) :
    (((Bandit.init arms kind .none none k1).runHist le h).step le (.fit a) o g).1.lp =
      (LP.init kind ((Bandit.init arms kind .none none k1).runHist le h).arms none k1).fit
        a.toBatch (batchWidth a.toBatch) := by
  rw [step_lp le _ (.fit a) o g (binv_reachable le arms kind .none none k1 hn h) (runHist_np le h _) rfl]
  simp only [Bandit.lpOpOf, hacc, Bool.false_eq_true, if_false, LP.stepOp]
  rw [← facade_trace_arms le kind arms k1 hn h ht, facade_lp_is_trace le kind arms k1 hn h ht]
  exact fit_after_history_eq_fresh kind arms k1 hn _ a.toBatch _ hts hr hlin

end Mab
