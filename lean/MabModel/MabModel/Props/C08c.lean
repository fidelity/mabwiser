/-
  C08 (continued) — the facade invariant through every history: arm list duplicate-free; learning policy (under
  Clusters: every cluster's policy) well-formed over exactly the arm list; the neighbourhood policy's neutral
  expectations and TreeBandit's leaf stores keyed by exactly the arms — preserved by every accepted or rejected call.
-/
import MabModel.Props.C08b
import MabModel.Lemmas.History
import MabModel.Lemmas.Store
open Py

namespace Mab
variable {α : Type} [DecidableEq α]

structure BInv (b : Bandit α) : Prop where
  nodup : b.arms.Nodup
  /-- the (template) learning policy; `_Clusters` keeps its policies per cluster instead -/
  lp : (∀ n, b.np ≠ .clusters n) → b.lp.WF ∧ b.lp.arms = b.arms
  lps : ∀ n, b.np = .clusters n → ∀ l ∈ b.lps, l.WF ∧ l.arms = b.arms
  npExp : b.np ≠ .none → b.npExp.keys = b.arms
  leaf : b.np = .tree → b.leafRewards.keys = b.arms

omit [DecidableEq α] in
theorem BInv.lp_none {b : Bandit α} (h : BInv b) (hnp : b.np = .none) : b.lp.WF ∧ b.lp.arms = b.arms :=
  h.lp fun _ hc => NPCfg.noConfusion (hnp.symm.trans hc)

theorem binv_init (arms : List α) (kind : Kind) (np : NPCfg) (bz : Option (α → Rat → Rat)) (k1 : Bool) (hn : arms.Nodup) :
    BInv (Bandit.init arms kind np bz k1) := by
  have hlp : (LP.init kind arms bz k1).WF ∧ (LP.init kind arms bz k1).arms = arms := ⟨⟨by simp [LP.init], hn⟩, rfl⟩
  have hk : ∀ v : Expect, (Dict.fromKeys arms v).keys = arms := fun v => Dict.keys_fromKeys ..
  cases np with
  | none => exact ⟨hn, fun _ => hlp, nofun, fun h => absurd rfl h, nofun⟩
  | radius | knn | lsh => exact ⟨hn, fun _ => hlp, nofun, fun _ => hk _, nofun⟩
  | clusters n => exact ⟨hn, fun h => absurd rfl (h n), fun _ _ l hl => List.eq_of_mem_replicate hl ▸ hlp, fun _ => hk _, nofun⟩
  | tree => exact ⟨hn, fun _ => hlp, nofun, fun _ => hk _, fun _ => Dict.keys_fromKeys ..⟩

omit [DecidableEq α] in
theorem ctxBin_over {l : LP α} {arms : List α} (hl : l.WF ∧ l.arms = arms) (f : Bool) :
    ({ l with ctxBin := f } : LP α).WF ∧ ({ l with ctxBin := f } : LP α).arms = arms :=
  ⟨⟨hl.1.keys, hl.1.nodup⟩, hl.2⟩

omit [DecidableEq α] in
theorem npBinarize_wf (lp : LP α) (batch : Batch α) (arms : List α) (h : lp.WF ∧ lp.arms = arms) :
    (npBinarize lp batch).1.WF ∧ (npBinarize lp batch).1.arms = arms := by
  rw [npBinarize_eq]
  exact ctxBin_over h _

theorem treeFitArms_keys (b : Bandit α) (batch : Batch α) (leaves : List (List Nat)) :
    (treeFitArms b batch leaves).leafRewards.keys = b.leafRewards.keys := by
  simp only [treeFitArms]
  exact foldl_frame _ Dict.keys _ (fun lr p _ => by split <;> simp only [Dict.keys_modify]) _

theorem clustersFitOp_wf (b : Bandit α) (labels : List Nat) (w : Option Nat) {arms : List α}
    (h : ∀ l ∈ b.lps, l.WF ∧ l.arms = arms) : ∀ l ∈ (clustersFitOp b labels w).lps, l.WF ∧ l.arms = arms := by
  simp only [clustersFitOp, List.forall_mem_map]
  exact fun p hp => (fit_sameCfg ..).over (h _ (List.fst_mem_of_mem_zipIdx hp))

theorem binv_impFit (b : Bandit α) (batch : Batch α) (o : Oracle) (g : Rng) (h : BInv b) : BInv (b.impFit batch o g).1 := by
  obtain ⟨p1, p2, p3⟩ := impFit_frame b batch o g
  refine ⟨p2 ▸ h.nodup, ?_, ?_, by rw [p1, p2, p3]; exact h.npExp, ?_⟩ <;> rw [p1, p2]
  · intro hn
    have hl := h.lp hn
    unfold Bandit.impFit
    cases hk : b.np with
    | none => exact (fit_sameCfg ..).over hl
    | clusters n => exact absurd hk (hn n)
    | _ => exact npBinarize_wf _ _ _ hl
  · intro n hk
    simp only [Bandit.impFit, hk]
    exact clustersFitOp_wf _ _ _ (List.forall_mem_map.mpr fun l hl => ctxBin_over (h.lps n hk l hl) _)
  · intro hk
    simp only [Bandit.impFit, hk, treeFitArms_keys, Dict.keys_fromKeys]

theorem binv_impPartialFit (b : Bandit α) (batch : Batch α) (o : Oracle) (g : Rng) (h : BInv b) :
    BInv (b.impPartialFit batch o g).1 := by
  obtain ⟨p1, p2, p3⟩ := impPartialFit_frame b batch o g
  refine ⟨p2 ▸ h.nodup, ?_, ?_, by rw [p1, p2, p3]; exact h.npExp, ?_⟩ <;> rw [p1, p2]
  · intro hn
    have hl := h.lp hn
    unfold Bandit.impPartialFit
    cases hk : b.np with
    | none => exact (partialFit_sameCfg ..).over hl
    | clusters n => exact absurd hk (hn n)
    | _ => exact npBinarize_wf _ _ _ hl
  · intro n hk
    simp only [Bandit.impPartialFit, hk]
    exact clustersFitOp_wf _ _ _ (List.forall_mem_map.mpr fun l hl => ctxBin_over (h.lps n hk l hl) _)
  · intro hk
    simp only [Bandit.impPartialFit, hk, treeFitArms_keys, h.leaf hk]

theorem binv_impAddArm (b : Bandit α) (a : α) (bz : Option (α → Rat → Rat)) (h : BInv b) (ha : a ∉ b.arms) :
    BInv (b.impAddArm a bz) := by
  obtain ⟨p1, p2⟩ := impAddArm_frame b a bz
  refine ⟨p2 ▸ List.nodup_append_singleton b.arms a h.nodup ha, ?_, ?_, ?_, ?_⟩ <;> rw [p1, p2]
  · intro hn
    have hw := addArm_over (h.lp hn) a bz ha
    unfold Bandit.impAddArm
    cases hk : b.np with
    | clusters n => exact absurd hk (hn n)
    | none | tree => exact hw
    | radius | knn | lsh =>
      dsimp only
      split
      · exact ctxBin_over hw true
      · exact hw
  · intro n hk
    simp only [Bandit.impAddArm, hk]
    exact List.forall_mem_map.mpr fun l hl => addArm_over (h.lps n hk l hl) a bz ha
  · intro hne
    have hk0 := h.npExp hne
    unfold Bandit.impAddArm
    cases hk : b.np with
    | none => exact absurd hk hne
    | _ => exact (Dict.keys_set_not_mem _ _ _ (hk0 ▸ ha)).trans (congrArg (· ++ [a]) hk0)
  · intro hk
    have hk0 := h.leaf hk
    simp only [Bandit.impAddArm, hk]
    exact (Dict.keys_set_not_mem _ _ _ (hk0 ▸ ha)).trans (congrArg (· ++ [a]) hk0)

theorem binv_impRemoveArm (b : Bandit α) (a : α) (h : BInv b) : BInv (b.impRemoveArm a) := by
  obtain ⟨p1, p2⟩ := impRemoveArm_frame b a
  refine ⟨p2 ▸ h.nodup.filter _, ?_, ?_, ?_, ?_⟩ <;> rw [p1, p2]
  · intro hn
    have hw := removeArm_over (h.lp hn) a
    unfold Bandit.impRemoveArm
    cases hk : b.np with
    | clusters n => exact absurd hk (hn n)
    | _ => exact hw
  · intro n hk
    simp only [Bandit.impRemoveArm, hk]
    exact List.forall_mem_map.mpr fun l hl => removeArm_over (h.lps n hk l hl) a
  · intro hne
    unfold Bandit.impRemoveArm
    cases b.np <;> exact (Dict.keys_pop ..).trans (congrArg _ (h.npExp hne))
  · intro hk
    simp only [Bandit.impRemoveArm, hk, Dict.keys_pop, h.leaf hk]

theorem BInv.with_lp {b : Bandit α} (h : BInv b) {lp' : LP α} (hs : SameCfg b.lp lp') : BInv { b with lp := lp' } :=
  ⟨h.nodup, fun hn => hs.over (h.lp hn), h.lps, h.npExp, h.leaf⟩

theorem binv_perform (le : Expect → Expect → Bool) (b : Bandit α) (o : Oracle) (g : Rng) {op : Op α} {act : Action α}
    (h : BInv b) (hp : b.Performs op act) : BInv (b.perform le o g act).1 := by
  cases act with
  | fit batch =>
    have := binv_impFit b batch o g h
    exact ⟨this.nodup, this.lp, this.lps, this.npExp, this.leaf⟩
  | partialFit batch => exact binv_impPartialFit b batch o g h
  | addArm a bz => cases hp with | addArm _ _ _ hm => exact binv_impAddArm b a bz h hm
  | removeArm a => exact binv_impRemoveArm b a h
  | warmStart w =>
    simp only [Bandit.perform]
    split
    · cases hw : b.lp.warmStart w.keys w.raw w.q with
      | none => exact h
      | some lp => exact h.with_lp (warmStart_sameCfg b.lp lp _ _ _ hw)
    · exact h
  | query p a =>
    -- a query writes the policy's last draw at most, which is no part of the configuration
    have hs : SameCfg b.lp (match b.np with
        | .none => (b.lp.predictExp (a.contexts.map (·.length)) (a.contexts.getD []) .main g).1 | _ => b.lp) := by
      split
      · exact predictExp_sameCfg ..
      · exact SameCfg.refl _
    simp only [Bandit.perform]
    rw [impPredict_state]
    exact h.with_lp hs

/-- **C08 (facade invariant).**  Every call of the facade — accepted or rejected, training, arm change,
    warm start or query — preserves: the arm list is duplicate-free; the learning policy (or, under
    Clusters, every cluster's policy) is well-formed over exactly the arm list; the neutral-expectation
    dictionary of the neighbourhood policy and TreeBandit's leaf stores have exactly the arms as keys. -/
theorem binv_step (le : Expect → Expect → Bool) (b : Bandit α) (op : Op α) (o : Oracle) (g : Rng) (h : BInv b) :
    BInv (b.step le op o g).1 :=
  step_cases le b op o g (fun _ _ => h) fun _ hp => binv_perform le b o g h hp

/-- **C08 (every reachable state).**  After *any* history of calls on a bandit constructed with a
    duplicate-free arm list — whatever policy combination, whatever calls were rejected — the invariant holds. -/
theorem binv_reachable (le : Expect → Expect → Bool) (arms : List α) (kind : Kind) (np : NPCfg)
    (bz : Option (α → Rat → Rat)) (k1 : Bool) (hn : arms.Nodup) (hist : List (Op α × Oracle × Rng)) :
    BInv ((Bandit.init arms kind np bz k1).runHist le hist) :=
  runHist_invariant le BInv (binv_step le) hist _ (binv_init arms kind np bz k1 hn)

/-- **C08 (outputs, no neighbourhood policy).**  In a state satisfying the invariant, every dictionary a
    successful `predict_expectations` / `predict` call computes has exactly the current arms as keys in
    arm-list order, and every predicted arm is a current arm. -/
theorem query_outputs_over_arms (le : Expect → Expect → Bool) (b : Bandit α) (a : PredArgs) (isPredict : Bool)
    (o : Oracle) (g : Rng) (h : BInv b) (hnp : b.np = .none)
    (hne : b.lp.kind.isLinear = true → a.contexts.getD [] ≠ [])
    (hok : (b.query le a isPredict o g).2.1.err = none) :
    (∀ d ∈ (b.query le a isPredict o g).2.1.out.exps.toList, Dict.keys d = b.arms) ∧
    (∀ p ∈ (b.query le a isPredict o g).2.1.out.arms.toList, Dict.keys p.2 = b.arms ∧ ∀ x, p.1 = some x → x ∈ b.arms) := by
  have hl := h.lp_none hnp
  have hk := predictExp_keys_all b.lp hl.1 (a.contexts.map (·.length)) (a.contexts.getD []) hne .main g
  revert hok
  refine query_cases le b a isPredict o g (fun _ hok => nomatch hok) fun _ => ?_
  simp only [Bandit.perform, Bandit.impPredict, hnp]
  cases isPredict
  · refine ⟨fun d hd => (hk d hd).trans hl.2, ?_⟩
    intro p hp; simp [Out.toList] at hp
  · simp only [if_true, LP.predict]
    refine ⟨by intro d hd; simp [Out.toList] at hd, ?_⟩
    intro p hp
    rw [Out.toList_map] at hp
    obtain ⟨d, hd, rfl⟩ := List.mem_map.mp hp
    have hkd := (hk d hd).trans hl.2
    exact ⟨hkd, fun x hx => predict_mem le d b.arms hkd x hx⟩

end Mab
