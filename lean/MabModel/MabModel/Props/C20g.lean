/-
  C20 (continued) — relabelling equivariance of the whole facade, for every history: validation, training,
  queries, arm changes and warm start of the relabelled bandit reject exactly the same calls, return the renamed
  outputs, issue the same sampler requests and reach the relabelled state, under every policy combination.
-/
import MabModel.Props.C20f
import MabModel.Lemmas.History
open Py
set_option linter.unusedSectionVars false

namespace Mab
variable {α β : Type} [DecidableEq α] [DecidableEq β]

def ArmArg.rename (f : α → β) : ArmArg α → ArmArg β
  | .ok a => .ok (f a) | .none => .none | .nan => .nan | .inf => .inf

def TrainArgs.rename (f : α → β) (a : TrainArgs α) : TrainArgs β :=
  { typeOk := a.typeOk, decisions := a.decisions.map f, rewards := a.rewards, contexts := a.contexts, ctxTypeOk := a.ctxTypeOk }

def WarmArgs.rename (f : α → β) (finv : β → α) (w : WarmArgs α) : WarmArgs β :=
  { typeOk := w.typeOk, q := w.q, keys := w.keys.map f, raw := relabelRaw finv w.raw, featOk := w.featOk }

/-- the call with every arm label renamed (a binarizer receives the original label back) -/
def Op.rename (f : α → β) (finv : β → α) : Op α → Op β
  | .fit a => .fit (a.rename f)
  | .partialFit a => .partialFit (a.rename f)
  | .predict a => .predict a
  | .predictExp a => .predictExp a
  | .addArm a bz c => .addArm (a.rename f) (bz.map fun g x => g (finv x)) c
  | .removeArm a => .removeArm (a.rename f)
  | .warmStart w => .warmStart (w.rename f finv)

def StepOut.rename (f : α → β) (s : StepOut α) : StepOut β := { err := s.err, out := s.out.rename f }

/-- what the relabelled bandit must deliver for one call: relabelled state, renamed output, same generator -/
def trStep (f : α → β) (finv : β → α) (x : Bandit α × StepOut α × Rng) : Bandit β × StepOut β × Rng :=
  (x.1.relabel f finv, x.2.1.rename f, x.2.2)

variable (f : α → β) (finv : β → α) (hinv : ∀ a, finv (f a) = a)

theorem isContextual_relabel (b : Bandit α) : (b.relabel f finv).isContextual = b.isContextual := rfl

theorem currentBinz_relabel (b : Bandit α) :
    (b.relabel f finv).currentBinz = b.currentBinz.map fun g x => g (finv x) := by
  unfold Bandit.currentBinz
  rw [Bandit.relabel_np]
  split
  · exact congrArg LP.binz (headD_relabel f finv b)
  · rfl

theorem validateTrain_relabel (b : Bandit α) (a : TrainArgs α) :
    (b.relabel f finv).validateTrain (a.rename f) = b.validateTrain a := by
  unfold Bandit.validateTrain
  simp only [isContextual_relabel, currentBinz_relabel, Option.isNone_map, TrainArgs.rename, List.length_map]
  rfl

theorem toBatch_rename (a : TrainArgs α) : (a.rename f).toBatch = relabelBatch f a.toBatch := by
  simp only [TrainArgs.toBatch, relabelBatch, TrainArgs.rename, List.map_map, List.zip_map_left, List.zipIdx_map,
    Function.comp_def, Prod.map_fst, Prod.map_snd, id_eq]

include hinv

theorem trainShapeErr_relabel (b : Bandit α) (batch : Batch α) (p : Bool) :
    (b.relabel f finv).trainShapeErr (relabelBatch f batch) p = b.trainShapeErr batch p := by
  unfold Bandit.trainShapeErr Bandit.storedWidth
  -- the checks read widths and lengths, and whether some row is of a known arm
  have hrag : ∀ w : Option Nat, (relabelBatch f batch).any (fun r => decide (some r.ctx.length ≠ w)) =
      batch.any (fun r => decide (some r.ctx.length ≠ w)) := fun w => by
    simp only [relabelBatch, List.any_map, Function.comp_def]
  have hany : (relabelBatch f batch).any (fun r => decide (r.arm ∈ (b.relabel f finv).arms)) =
      batch.any (fun r => decide (r.arm ∈ b.arms)) := by
    simp only [Bandit.relabel_arms, relabelBatch, List.any_map, Function.comp_def, List.mem_map_inj (Function.LeftInverse.injective hinv)]
  simp only [Bandit.relabel_np, Bandit.relabel_hist, Bandit.relabel_lp, relabel_kind,
    show (b.lp.relabel f finv).numFeatures = b.lp.numFeatures from rfl,
    batchWidth_relabel f, relabelBatch_length, hrag, hany]

/-- **C20 (relabelling, `fit` / `partial_fit` through the facade).** -/
theorem train_relabel (b : Bandit α) (a : TrainArgs α) (p : Bool) (o : Oracle) (g : Rng) :
    (b.relabel f finv).train (a.rename f) p o g =
      ((b.train a p o g).1.relabel f finv, (b.train a p o g).2.1.rename f, (b.train a p o g).2.2) := by
  unfold Bandit.train
  rw [validateTrain_relabel, toBatch_rename]
  have hfit : (b.relabel f finv).isFit = b.isFit := rfl
  cases b.validateTrain a with
  | some e => rfl
  | none =>
    simp only [hfit]
    rw [trainShapeErr_relabel f finv hinv]
    cases b.trainShapeErr a.toBatch (p && b.isFit) with
    | some e => rfl
    | none =>
      simp only []
      split
      · rw [impPartialFit_relabel f finv hinv]; rfl
      · rw [impFit_relabel f finv hinv]; rfl

/-- **C20 (relabelling, queries through the facade).** -/
theorem query_relabel (le : Expect → Expect → Bool) (b : Bandit α) (a : PredArgs) (isPredict : Bool) (o : Oracle) (g : Rng) :
    (b.relabel f finv).query le a isPredict o g =
      ((b.query le a isPredict o g).1.relabel f finv, (b.query le a isPredict o g).2.1.rename f, (b.query le a isPredict o g).2.2) := by
  show _ = trStep f finv (b.query le a isPredict o g)
  refine ite_hom Iff.rfl rfl (ite_hom Iff.rfl rfl (ite_hom Iff.rfl rfl ?_))
  rw [impPredict_relabel f finv hinv]; rfl

/-- **C20 (relabelling, one call through the facade).**  Whatever the call — accepted or rejected — the
    relabelled bandit reports the same error or the renamed outputs, issues the same sampler requests and
    ends in the relabelled state. -/
theorem step_relabel (le : Expect → Expect → Bool) (b : Bandit α) (op : Op α) (o : Oracle) (g : Rng) :
    (b.relabel f finv).step le (op.rename f finv) o g = trStep f finv (b.step le op o g) := by
  have hmem : ∀ a, f a ∈ (b.relabel f finv).arms ↔ a ∈ b.arms := fun a => List.mem_map_inj (Function.LeftInverse.injective hinv)
  have hall : ∀ l m : List α, (l.map f).all (fun x => decide (x ∈ m.map f)) = l.all (fun x => decide (x ∈ m)) := fun l m => by
    simp only [List.all_map, Function.comp_def, List.mem_map_inj (Function.LeftInverse.injective hinv)]
  -- `step` is a chain of checks followed by the action: the checks decide alike, the actions commute
  cases op with
  | fit a => exact train_relabel f finv hinv b a false o g
  | partialFit a => exact train_relabel f finv hinv b a true o g
  | predict a => exact query_relabel f finv hinv le b a true o g
  | predictExp a => exact query_relabel f finv hinv le b a false o g
  | addArm arg bz c =>
    refine ite_hom (by rw [Option.isSome_map]; rfl) rfl (ite_hom (by rw [Option.isSome_map]) rfl ?_)
    cases arg with
    | ok a => exact ite_hom (hmem a) rfl (by rw [impAddArm_relabel f finv hinv]; rfl)
    | _ => rfl
  | removeArm arg =>
    cases arg with
    | ok a => exact ite_hom (hmem a) (by rw [impRemoveArm_relabel f finv hinv]; rfl) rfl
    | _ => rfl
  | warmStart w =>
    refine ite_hom Iff.rfl rfl (ite_hom Iff.rfl rfl (ite_hom ?_ rfl ?_))
    · show ¬ ((w.keys.map f).all (· ∈ b.arms.map f) ∧ (b.arms.map f).all (· ∈ w.keys.map f)) ↔ _
      rw [hall, hall]
    · show (match b.np with | .none => _ | _ => _) = _
      cases hn : b.np with
      | none =>
        refine ite_hom Iff.rfl rfl ?_
        show (match (b.lp.relabel f finv).warmStart (w.keys.map f) (relabelRaw finv w.raw) w.q with
              | some lp => _ | none => _) = _
        rw [warmStart_relabel f finv hinv]
        cases b.lp.warmStart w.keys w.raw w.q with
        | none => rfl
        | some lp' => simp only [Option.map_some, trStep, Bandit.relabel, hn]; rfl
      | _ => rfl

/-- a history with every arm label renamed (oracle values and recorded sampler answers are the same) -/
def renameHistory (f : α → β) (finv : β → α) (h : History α) : History β :=
  h.map fun p => (p.1.rename f finv, p.2.1, p.2.2)

/-- **C20 (relabelling, every history, state).**  Running the renamed history on the relabelled bandit ends in
    the relabelled state — under every learning policy and every neighbourhood policy. -/
theorem runHist_relabel (le : Expect → Expect → Bool) (h : History α) : ∀ b : Bandit α,
    (b.relabel f finv).runHist le (renameHistory f finv h) = (b.runHist le h).relabel f finv := by
  induction h with
  | nil => intro b; rfl
  | cons p t ih =>
    intro b
    obtain ⟨op, o, g⟩ := p
    simp only [renameHistory, List.map_cons, Bandit.runHist]
    rw [step_relabel f finv hinv]
    exact ih _

/-- **C20 (relabelling, every history, everything observable).**  Call by call, the relabelled bandit rejects
    exactly the calls the original rejects (same error class), returns the renamed arms and the expectations keyed
    by the new names in the same order, and issues the same sampler requests. -/
theorem runOuts_relabel (le : Expect → Expect → Bool) (h : History α) : ∀ b : Bandit α,
    (b.relabel f finv).runOuts le (renameHistory f finv h) = (b.runOuts le h).map fun p => (p.1.rename f, p.2) := by
  induction h with
  | nil => intro b; rfl
  | cons p t ih =>
    intro b
    obtain ⟨op, o, g⟩ := p
    simp only [renameHistory, List.map_cons, Bandit.runOuts]
    rw [step_relabel f finv hinv]
    simp only [trStep]
    congr 1
    exact ih _

omit hinv in
theorem init_relabel_bandit (arms : List α) (kind : Kind) (np : NPCfg) (bz : Option (α → Rat → Rat)) (k1 : Bool) :
    Bandit.init (arms.map f) kind np (bz.map fun g x => g (finv x)) k1 = (Bandit.init arms kind np bz k1).relabel f finv := by
  unfold Bandit.init
  simp only [init_relabel f finv]
  cases np <;> simp only [Bandit.relabel, renameK_eq, Dict.rekey_fromKeys, id_eq, List.map_replicate, List.map_nil] <;> rfl

/-- **C20 (relabelling, end to end).**  A bandit constructed with renamed arms and driven through the renamed
    history produces, call by call, exactly the renamed outputs of the original. -/
theorem relabel_end_to_end (le : Expect → Expect → Bool) (arms : List α) (kind : Kind) (np : NPCfg)
    (bz : Option (α → Rat → Rat)) (k1 : Bool) (h : History α) :
    (Bandit.init (arms.map f) kind np (bz.map fun g x => g (finv x)) k1).runOuts le (renameHistory f finv h) =
      ((Bandit.init arms kind np bz k1).runOuts le h).map fun p => (p.1.rename f, p.2) := by
  rw [init_relabel_bandit f finv, runOuts_relabel f finv hinv]

/-- the hypothesis is satisfiable and the statement has content: renaming `1, 2` to `11, 12` -/
example : ∀ a : Nat, (fun b => b - 10) ((fun a => a + 10) a) = a := by intro a; simp

example : ((Bandit.init [1, 2] (.greedy 0) (.knn 1 .cityblock)).relabel (fun a => a + 10) (fun b => b - 10)).arms = [11, 12] := rfl

end Mab
