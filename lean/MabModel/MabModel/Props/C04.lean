/-
  C04 — seeded runs are reproducible and bandit instances are isolated (the logical part).
-/
import MabModel.Core.World

namespace Mab

/-- every tree of every bandit was built with that bandit's own seed, and no cell outside the bandits
    has been written -/
def World.Isolated (w : World) : Prop :=
  (∀ b ∈ w.bandits, b.ownParams = b.seed ∧ ∀ t ∈ b.trees, t = b.seed) ∧ w.callerCell = none

theorem private_copy_frame (w : World) (op : WOp) (h : w.shared = false) :
    (w.step op).shared = false ∧ (w.step op).defaultCell = w.defaultCell ∧ (w.step op).callerCell = w.callerCell := by
  cases op with
  | copy i => simp only [World.step]; cases w.bandits[i]? <;> simp [h]
  | _ => simp [World.step, h]

/-- one operation on a world with private copies keeps it isolated: new and copied bandits bring their own
    seed, and a fit appends a tree built from the bandit's own parameters -/
theorem step_isolated (w : World) (op : WOp) (hs : w.shared = false) (hi : w.Isolated) : (w.step op).Isolated := by
  refine ⟨?_, by rw [(private_copy_frame w op hs).2.2]; exact hi.2⟩
  -- a bandit appended to the list: the old ones keep what they had, the new one has to be checked
  have happ : ∀ b0 : WBandit, (b0.ownParams = b0.seed ∧ ∀ t ∈ b0.trees, t = b0.seed) →
      ∀ b ∈ w.bandits ++ [b0], b.ownParams = b.seed ∧ ∀ t ∈ b.trees, t = b.seed := fun b0 h0 =>
    List.forall_mem_append.mpr ⟨hi.1, List.forall_mem_singleton.mpr h0⟩
  cases op with
  | construct seed d =>
    simp only [World.step, hs, Bool.false_eq_true, if_false]
    exact happ _ ⟨rfl, fun _ h => nomatch h⟩
  | fit i =>
    simp only [World.step, hs, Bool.false_eq_true, false_and, if_false]
    intro b hb
    obtain ⟨j, hj, rfl⟩ := List.mem_mapIdx.mp hb
    obtain ⟨h1, h2⟩ := hi.1 _ (List.getElem_mem hj)
    split
    · exact ⟨h1, List.forall_mem_append.mpr ⟨h2, List.forall_mem_singleton.mpr h1⟩⟩
    · exact ⟨h1, h2⟩
  | other i => exact hi.1
  | copy i =>
    simp only [World.step]
    cases hb : w.bandits[i]? with
    | none => exact hi.1
    | some b0 => exact happ b0 (hi.1 b0 (List.mem_of_getElem? hb))

theorem run_isolated (ops : List WOp) (w : World) (hs : w.shared = false) (hi : w.Isolated) :
    (w.run ops).Isolated ∧ (w.run ops).defaultCell = w.defaultCell := by
  induction ops generalizing w with
  | nil => exact ⟨hi, rfl⟩
  | cons op ops ih =>
    obtain ⟨f1, f2, _⟩ := private_copy_frame w op hs
    obtain ⟨i1, i2⟩ := ih (w.step op) f1 (step_isolated w op hs hi)
    exact ⟨i1, i2.trans f2⟩

/-- **C04 (isolation, private copies).**  With private parameter copies, after *any* interleaving of
    constructions, fits and other calls on any number of bandits, every bandit's trees were built
    with its own seed — what other bandits exist or did in between is irrelevant — and the default
    dictionary and the caller's dictionary were never written. -/
theorem noninterference_private (ops : List WOp) (d0 : Nat) :
    (World.run { shared := false, defaultCell := d0 } ops).Isolated ∧
    (World.run { shared := false, defaultCell := d0 } ops).defaultCell = d0 :=
  run_isolated ops _ rfl ⟨fun _ h => absurd h List.not_mem_nil, rfl⟩

/-- true of any function: what it records is that `World.step` takes the whole world as its argument, the model has
    no state beside it -/
theorem world_step_deterministic (w w' : World) (op : WOp) (h : w = w') : w.step op = w'.step op := by rw [h]

/-- the repaired defect D5 (pinned tree: the dictionary is shared): two default-constructed bandits
    with seeds 1 and 2 — the first one's tree is built with `random_state = 2` -/
theorem shared_default_counterexample :
    ((World.run { shared := true } [.construct 1 true, .construct 2 true, .fit 0]).bandits.map (·.trees)) = [[2], []] ∧
    ((World.run { shared := false } [.construct 1 true, .construct 2 true, .fit 0]).bandits.map (·.trees)) = [[1], []] ∧
    (World.run { shared := true } [.construct 7 false]).callerCell = some 7 := by
  decide +kernel

end Mab
