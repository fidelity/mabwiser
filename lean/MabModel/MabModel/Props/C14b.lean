/-
  C14b — the binarizer along a whole history: what `fit_binarizer_once` / `partialFit_binarizer_once` (C14) say of
  one call, for every history of fit / partial_fit / add_arm / remove_arm (`run_binarizer_once`), and the log the
  Thompson counters are then computed from.
-/
import MabModel.Props.C14
import MabModel.Props.C06
open Py
set_option linter.unusedSectionVars false

namespace Mab
variable {α : Type} [DecidableEq α]

/-- the history the twin without binarizer is given: training batches converted by `s`'s binarizer -/
def LPOp.binarizeWith (s : LP α) : LPOp α → LPOp α
  | .fit b w => .fit (s.binarize b) w
  | .partialFit b => .partialFit (s.binarize b)
  | .addArm a => .addArm a
  | .removeArm a => .removeArm a

theorem binarizeWith_congr {s t : LP α} (h : SameOpts s t) (op : LPOp α) :
    LPOp.binarizeWith t op = LPOp.binarizeWith s op := by
  cases op <;> simp only [LPOp.binarizeWith, h.binarize]

/-- one call: the step of the policy with binarizer is the step of the twin on the converted call -/
theorem stepOp_binarizer_once (s : LP α) (op : LPOp α) :
    s.stepOp op = (s.noBinz.stepOp (LPOp.binarizeWith s op)).withBinz s.binz := by
  cases op with
  | fit b w => exact fit_binarizer_once s b w
  | partialFit b => exact partialFit_binarizer_once s b
  -- an arm change commutes with setting the binarizer, and `s` is its twin with the binarizer put back
  | addArm a => simp only [LPOp.binarizeWith, LP.stepOp, apply_ite (LP.withBinz · s.binz), ← addArm_withBinz]; rfl
  | removeArm a => simp only [LPOp.binarizeWith, LP.stepOp, apply_ite (LP.withBinz · s.binz), ← removeArm_withBinz]; rfl

/-- no call of the history replaces the binarizer or the "already converted" flag -/
theorem stepOp_binz (s : LP α) (op : LPOp α) :
    (s.stepOp op).binz = s.binz ∧ (s.stepOp op).ctxBin = s.ctxBin :=
  ⟨(stepOp_opts s op).binz, (stepOp_opts s op).ctxBin⟩

theorem noBinz_withBinz_of_none (x : LP α) (f : Option (α → Rat → Rat)) (h : x.binz = none) :
    (x.withBinz f).noBinz = x := by
  cases x; cases h; rfl

theorem stepOp_noBinz (s : LP α) (op : LPOp α) :
    (s.stepOp op).noBinz = s.noBinz.stepOp (LPOp.binarizeWith s op) := by
  rw [stepOp_binarizer_once s op]
  exact noBinz_withBinz_of_none _ _ (stepOp_opts s.noBinz _).binz

theorem run_noBinz (s : LP α) (ops : List (LPOp α)) :
    (s.run ops).noBinz = s.noBinz.run (ops.map (LPOp.binarizeWith s)) := by
  unfold LP.run
  rw [List.foldl_map]
  -- all along, the twin is the policy with its binarizer forgotten, and no call changes the options the conversion
  -- reads: every batch is converted as `s` converts it
  exact (List.foldl_rel (r := fun c c' : LP α => SameOpts s c ∧ c.noBinz = c') ⟨.refl s, rfl⟩
    fun op _ c c' ⟨ho, e⟩ => ⟨ho.trans (stepOp_opts c op), by rw [← e, ← binarizeWith_congr ho, stepOp_noBinz]⟩).2

/-- **C14 (every history).**  Running any history on a policy that holds a binarizer is running the
    converted history — every training batch converted exactly once, by the binarizer and flag the
    policy was constructed with — on the twin without binarizer, and putting the binarizer back.  The
    equality is one of full states: statistics, Beta counters, expectations, arms, flags. -/
theorem run_binarizer_once (s : LP α) (ops : List (LPOp α)) :
    s.run ops = (s.noBinz.run (ops.map (LPOp.binarizeWith s))).withBinz s.binz := by
  rw [← run_noBinz, ← (run_opts s ops).binz]
  rfl

/-- the Beta counters a Thompson policy holds after any history are those of the twin trained on the
    converted rewards: with `cf_thompson_counts` (C01) they count, per arm, the rewards whose
    *conversion* is 1 resp. 0 since the arm's last fit / add — every reward counted once. -/
theorem run_binarizer_once_state (s : LP α) (ops : List (LPOp α)) :
    (s.run ops).st = (s.noBinz.run (ops.map (LPOp.binarizeWith s))).st ∧
    (s.run ops).arms = (s.noBinz.run (ops.map (LPOp.binarizeWith s))).arms ∧
    (s.run ops).binz = s.binz := by
  rw [run_binarizer_once s ops]
  exact ⟨rfl, rfl, rfl⟩

/-- chunked training: with a binarizer, fit + partial fits on any chunking is one fit of the twin on the
    converted concatenation (C06's `chunked_eq_batch_full` read through the binarizer) -/
theorem chunked_binarizer_once (s : LP α) (h : s.WF) (w : Option Nat) (hw : s.kind.isLinear = true → w.isSome)
    (c₀ : Batch α) (cs : List (Batch α)) :
    s.run (chunkedOps w c₀ cs) = (s.noBinz.fit (s.binarize (c₀ ++ cs.flatten)) w).withBinz s.binz := by
  rw [chunked_eq_batch_full s h w hw cs c₀]
  exact fit_binarizer_once s _ w

/-! ### the log the counters are computed from is the converted log -/

/-- the converted log of one arm: `binarizer(arm, reward)` for each of its observations, in order -/
def convLog (f : α → Rat → Rat) (a : α) (l : List (Rat × Vec)) : List (Rat × Vec) := l.map fun p => (f a p.1, p.2)

theorem rowsOf_converted (f : α → Rat → Rat) (b : Batch α) (a : α) :
    rowsOf (b.map fun r => { r with reward := f r.arm r.reward }) a = convLog f a (rowsOf b a) := by
  simp only [rowsOf, convLog, List.filter_map, List.map_map]
  refine List.map_congr_left fun r hr => ?_
  have e : r.arm = a := of_decide_eq_true (List.mem_filter.mp hr).2
  simp [e]

/-- the relation between the abstract log of the history and that of the converted history -/
def ConvRel (f : α → Rat → Rat) (t t' : Spec α) : Prop :=
  t'.arms = t.arms ∧ t'.N = t.N ∧ ∀ a, t'.log a = convLog f a (t.log a)

theorem convRel_step (f : α → Rat → Rat) (s : LP α) (hf : s.binz = some f) (hc : s.ctxBin = false)
    (t t' : Spec α) (h : ConvRel f t t') (op : LPOp α) :
    ConvRel f (t.step op) (t'.step (LPOp.binarizeWith s op)) := by
  obtain ⟨ha, hN, hl⟩ := h
  cases op with
  | fit b w =>
    simp only [LPOp.binarizeWith, Spec.step, binarize_spec s f b hf hc]
    exact ⟨ha, List.length_map _, fun a => rowsOf_converted f b a⟩
  | partialFit b =>
    simp only [LPOp.binarizeWith, Spec.step, binarize_spec s f b hf hc]
    exact ⟨ha, by rw [hN, List.length_map], fun a => by simp only [rowsOf_converted, hl a, convLog, List.map_append]⟩
  | addArm x =>
    simp only [LPOp.binarizeWith, Spec.step, ha]
    split
    · exact ⟨ha, hN, hl⟩
    · exact ⟨rfl, hN, fun a => by dsimp only; split; exacts [rfl, hl a]⟩
  | removeArm x =>
    simp only [LPOp.binarizeWith, Spec.step, ha]
    split
    · exact ⟨rfl, hN, hl⟩
    · exact ⟨ha, hN, hl⟩

theorem convRel_run (f : α → Rat → Rat) (s : LP α) (hf : s.binz = some f) (hc : s.ctxBin = false)
    (ops : List (LPOp α)) (t t' : Spec α) (h : ConvRel f t t') :
    ConvRel f (t.run ops) (t'.run (ops.map (LPOp.binarizeWith s))) := by
  unfold Spec.run
  rw [List.foldl_map]
  exact List.foldl_rel h fun op _ t t' h => convRel_step f s hf hc t t' h op

/-- **C14 + C01, Thompson Sampling with a binarizer, every history.**  After any history of fit /
    partial_fit / add_arm / remove_arm the Beta parameters of every current arm are one plus the number of
    that arm's observations (since its last fit / add) whose *converted* reward is 1, and one plus the
    number whose converted reward is 0 — each observation converted and counted exactly once. -/
theorem thompson_counts_binarized (f : α → Rat → Rat) (arms : List α) (hn : arms.Nodup) (ops : List (LPOp α))
    (a : α) (ha : a ∈ ((LP.init .thompson arms (some f) false).run ops).arms) :
    let log := convLog f a (((Spec.init arms).run ops).log a)
    (((LP.init .thompson arms (some f) false).run ops).st.get? a).map (fun r => (r.succ, r.fail)) =
      some (1 + lsum log, 1 + ((log.length : Rat) - lsum log)) := by
  intro log
  have hrel := (convRel_run f (LP.init .thompson arms (some f) false) rfl rfl ops (Spec.init arms) (Spec.init arms)
    ⟨rfl, rfl, fun _ => rfl⟩).2.2 a
  rw [run_binarizer_once] at ha ⊢
  have hcnt := cf_thompson_counts arms hn _ a ha
  rwa [hrel] at hcnt

/-! non-vacuity: a non-idempotent binarizer (r ↦ 1 if r ≤ 1/2 else 0) over a history with an omitted
    arm, an added arm and a removed arm; the twin receives the converted rewards -/
def c14bBinz : Nat → Rat → Rat := fun _ r => if r ≤ (1 : Rat) / 2 then 1 else 0

def c14bOps : List (LPOp Nat) :=
  [.fit [{ arm := 1, reward := 0 }, { arm := 2, reward := 1 }, { arm := 1, reward := 1 }] none,
   .addArm 3, .partialFit [{ arm := 3, reward := 0 }, { arm := 2, reward := 0 }], .removeArm 1,
   .partialFit [{ arm := 2, reward := 1 }]]

example : (((LP.init .thompson [1, 2] none false).withBinz (some c14bBinz)).run c14bOps).expDict =
    ((LP.init .thompson [1, 2] none false).run
      [.fit [{ arm := 1, reward := 1 }, { arm := 2, reward := 0 }, { arm := 1, reward := 0 }] none,
       .addArm 3, .partialFit [{ arm := 3, reward := 1 }, { arm := 2, reward := 1 }], .removeArm 1,
       .partialFit [{ arm := 2, reward := 0 }]]).expDict := by decide +kernel

end Mab
