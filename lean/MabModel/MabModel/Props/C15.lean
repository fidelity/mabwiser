/-
  C15 — the Simulator reports what the public API would have produced (the logical part: the shared
  distance list, its indexing under any partition of a chunk among workers, the per-metric cache, and
  the equality of the re-implemented selection rule with the library's).
-/
import MabModel.Core.Simulator
import MabModel.Lemmas.Nhood
import MabModel.Props.C03  -- nothing below uses it: the audit of C15 (harness/props/theorems.py) reaches `radius_exact` through it
open Py

namespace Mab
variable {α : Type} [DecidableEq α]

/-- **C15 (index arithmetic).**  A worker that handles the rows `start, start+1, …` of a chunk and looks
    up `distances[start + index]` reads the distance vector of exactly the row it is predicting — for
    every partition of the chunk among workers. -/
theorem sim_distance_lookup (dist : Vec → Vec → Rat) (hist qs : List Vec) (start index : Nat)
    (h : start + index < qs.length) :
    (simDistances dist hist qs).getD (start + index) [] = hist.map fun x => dist x (qs[start + index]'h) := by
  simp only [simDistances, List.getD_eq_getElem?_getD, List.getElem?_map, List.getElem?_eq_getElem h,
    Option.map_some, Option.getD_some]

/-- … and that row is row `index` of the worker's slice `qs[start : start + len]` -/
theorem slice_row {β : Type} (qs : List β) (start len index : Nat) (hi : index < len) (h : start + index < qs.length) :
    ((qs.drop start).take len)[index]? = some (qs[start + index]'h) := by
  rw [List.getElem?_take_of_lt hi, List.getElem?_drop, List.getElem?_eq_getElem h]

set_option linter.unusedSectionVars false in
/-- **C15 (same selection as the library).**  `_RadiusSimulator` selects from the shared distance list
    exactly the rows `_Radius` selects by recomputing the distances of that row. -/
theorem sim_selection_eq_library (b : Bandit α) (r : Rat) (metric : Metric) (pr : Option (List Rat))
    (hnp : b.np = .radius r metric pr) (hm : metric ≠ .oracle) (qs : List Vec) (start index : Nat)
    (h : start + index < qs.length) :
    simRadiusSelect (simDistances (fun x q => distExact metric x q) (b.hist.map (·.ctx)) qs) start index (radiusBound metric r) =
      (b.selectIdx (qs[start + index]'h) [] []).1 := by
  simp only [simRadiusSelect, sim_distance_lookup _ _ _ _ _ h, selectIdx_radius hnp, hm, if_false, List.map_map,
    Function.comp_def]

/-- **C15 (cache per metric).**  However many neighbour bandits with whatever metrics share a chunk,
    each one is handed the distances computed *with its own metric* (the cache invariant: an entry
    for metric `m` holds the distances under `m`). -/
theorem sim_cache_correct {μ : Type} [DecidableEq μ] (dist : μ → Vec → Vec → Rat) (hist qs : List Vec) :
    ∀ (ms : List μ) (cache : Dict μ (List (List Rat))),
      (∀ m d, cache.get? m = some d → d = simDistances (dist m) hist qs) →
      ∀ p ∈ (simCache dist hist qs ms cache).1, p.2 = simDistances (dist p.1) hist qs := by
  intro ms
  induction ms with
  | nil => intro cache _ p hp; simp [simCache] at hp
  | cons m ms ih =>
    intro cache hinv p hp
    simp only [simCache] at hp
    cases hc : cache.get? m with
    | some d =>
      rw [hc] at hp
      rcases List.mem_cons.mp hp with e | e
      · rw [e]; exact hinv m d hc
      · exact ih cache hinv p e
    | none =>
      rw [hc] at hp
      rcases List.mem_cons.mp hp with e | e
      · rw [e]
      · -- the new entry keeps the invariant, the others are as they were
        refine ih _ (fun m' d' h' => ?_) p e
        by_cases hmm : m' = m
        · subst hmm; rw [Dict.get?_set_eq] at h'; exact (Option.some.inj h').symm
        · rw [Dict.get?_set_ne hmm] at h'; exact hinv m' d' h'

/-- starting each chunk with an empty cache satisfies the invariant -/
theorem sim_cache_fresh {μ : Type} [DecidableEq μ] (dist : μ → Vec → Vec → Rat) (hist qs : List Vec) (ms : List μ) :
    ∀ p ∈ (simCache dist hist qs ms []).1, p.2 = simDistances (dist p.1) hist qs :=
  sim_cache_correct dist hist qs ms [] (by intro m d h; simp [Dict.get?] at h)

/-- the defect that was repaired (one cache slot for all metrics): a bandit with another metric would
    read the first bandit's distances — `1 ≠ 4` for the rows `[0]`, `[2]` under cityblock vs sqeuclidean -/
theorem shared_cache_counterexample :
    simDistances (distExact .cityblock) [[0]] [[2]] ≠ simDistances (distExact .sqeuclidean) [[0]] [[2]] := by
  decide +kernel

end Mab
