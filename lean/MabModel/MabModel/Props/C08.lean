/-
  C08 — outputs always range over exactly the current arms, one result per context.
-/
import MabModel.Props.C01
import MabModel.Props.C09
open Py

namespace Mab
variable {α : Type} [DecidableEq α]

/-- **C08 (keys = arms).**  After any history of fit / partial_fit / add_arm / remove_arm the per-arm
    dictionaries of a learning policy have exactly the current arms as keys, in arm-list order and
    without duplicates; the arm list is the specification's: an added arm is present immediately
    (at the end), a removed arm is gone. -/
theorem keys_eq_arms (kind : Kind) (arms : List α) (k1 : Bool) (hn : arms.Nodup) (ops : List (LPOp α)) :
    let s := (LP.init kind arms none k1).run ops
    s.st.keys = s.arms ∧ s.arms.Nodup ∧ s.arms = ((Spec.init arms).run ops).arms := by
  have h := cf_refines_log kind arms k1 hn ops
  exact ⟨h.wf.keys, h.wf.nodup, h.arms⟩

theorem added_immediately (t : Spec α) (a : α) : a ∈ (t.step (.addArm a)).arms := by
  simp only [Spec.step]
  split
  · next h => exact h
  · simp

theorem removed_never_returns (t : Spec α) (a : α) : a ∉ (t.step (.removeArm a)).arms := by
  simp only [Spec.step]
  split
  · simp
  · next h => exact h

theorem arms_unchanged_by_training (t : Spec α) (b : Batch α) (w : Option Nat) :
    (t.step (.fit b w)).arms = t.arms ∧ (t.step (.partialFit b)).arms = t.arms := ⟨rfl, rfl⟩

/-- **C08 (shape).**  The reduction `predictions if len(predictions) > 1 else predictions[0]`:
    with `m > 1` rows a list of `m` results in row order, with one row a single result. -/
theorem unwrap_shape {β : Type} [Inhabited β] (l : List β) :
    (1 < l.length → Out.unwrap l = .many l) ∧ (l.length = 1 → ∃ x, l = [x] ∧ Out.unwrap l = .one x) := by
  constructor
  · intro h; simp [Out.unwrap, h]
  · intro h
    match l, h with
    | [x], _ => exact ⟨x, rfl, by simp [Out.unwrap]⟩

theorem draw_length (g : Rng) (r : Req) : (g.draw r).1.length = r.size := by
  unfold Rng.draw
  cases g.tape with
  | nil => exact List.length_replicate
  | cons a t =>
    simp only [List.length_take, List.length_append, List.length_replicate]
    omega

theorem chunk_length (w : Nat) : ∀ (n : Nat) (l : List Rat), (chunk w n l).length = n := by
  intro n
  induction n with
  | zero => intro l; rfl
  | succ n ih => intro l; simp [chunk, ih]

theorem chunk_rows (w : Nat) : ∀ (n : Nat) (l : List Rat), n * w ≤ l.length → ∀ row ∈ chunk w n l, row.length = w := by
  intro n
  induction n with
  | zero => intro l _ row h; simp [chunk] at h
  | succ n ih =>
    intro l hl row h
    simp only [chunk, List.mem_cons] at h
    rcases h with e | e
    · subst e; simp [List.length_take]; rw [Nat.succ_mul] at hl; omega
    · exact ih (l.drop w) (by simp [List.length_drop]; rw [Nat.succ_mul] at hl; omega) row e

omit [DecidableEq α] in
theorem mem_oneOrMany {size : Nat} {ds : List (ExpDict α)} {d : ExpDict α} (hlen : ds.length = size)
    (h : d ∈ (oneOrMany size ds).toList) : d ∈ ds := by
  unfold oneOrMany at h
  split at h
  · next h1 =>
    match ds, hlen.trans h1 with
    | [x], _ => exact h
  · exact h

omit [DecidableEq α] in
theorem zipRows_length (keys : List α) (w size : Nat) (vals : List Rat) : (zipRows keys w size vals).length = size := by
  rw [zipRows, List.length_map, chunk_length]

omit [DecidableEq α] in
theorem zipRows_keys (keys : List α) (w size : Nat) (vals : List Rat) (hw : keys.length ≤ w) (hv : size * w ≤ vals.length) :
    ∀ d ∈ zipRows keys w size vals, Dict.keys d = keys := by
  intro d hd
  simp only [zipRows, List.mem_map] at hd
  obtain ⟨row, hrow, rfl⟩ := hd
  exact Dict.keys_zip _ _ (by rw [List.length_map, chunk_rows w size vals hv row hrow]; exact hw)

theorem thompsonRows_length (arms : List α) (cols : List (α × List Rat)) (size : Nat) :
    (thompsonRows arms cols size).length = size := by
  rw [thompsonRows, List.length_map, List.length_range]

theorem thompsonRows_keys (arms : List α) (cols : List (α × List Rat)) (size : Nat) :
    ∀ d ∈ thompsonRows arms cols size, Dict.keys d = arms := by
  intro d hd
  simp only [thompsonRows, List.mem_map] at hd
  obtain ⟨i, _, rfl⟩ := hd
  simp [Dict.keys, List.map_map, Function.comp_def]

omit [DecidableEq α] in
theorem expDict_keys (s : LP α) : Dict.keys s.expDict = s.st.keys := by
  simp only [LP.expDict, Dict.keys, List.map_map, Function.comp_def]

/-- every dictionary `predict_expectations` returns has exactly the keys of the policy — here for the
    policies that answer from their stored expectations (UCB1) or draw per arm (Thompson, Random,
    Softmax, Popularity), with or without contexts, for every tape -/
theorem predictExp_keys (s : LP α) (hwf : s.WF) (m : Option Nat) (ctxs : List Vec) (own : Stream) (g : Rng)
    (hk : (∃ a, s.kind = .ucb a) ∨ s.kind = .thompson ∨ s.kind = .random ∨ (∃ t, s.kind = .softmax t) ∨ s.kind = .popularity) :
    ∀ d ∈ (s.predictExp m ctxs own g).2.1.toList, Dict.keys d = s.arms := by
  intro d hd
  rcases hk with ⟨a, hk⟩ | hk | hk | hk
  · rw [predictExp_ucb s m ctxs own g a hk] at hd
    rw [(List.mem_replicate.mp (mem_oneOrMany List.length_replicate hd)).2]
    exact (expDict_keys s).trans hwf.keys
  · rw [predictExp_thompson s m ctxs own g hk] at hd
    exact thompsonRows_keys _ _ _ d (mem_oneOrMany (thompsonRows_length ..) hd)
  · rw [predictExp_random s m ctxs own g hk] at hd
    exact zipRows_keys _ _ _ _ (Nat.le_refl _) (by rw [draw_length]) d (mem_oneOrMany (zipRows_length ..) hd)
  · have hlen : s.st.keys.length = s.st.length := List.length_map _
    rw [predictExp_dirichlet s m ctxs own g hk] at hd
    rw [← hwf.keys]
    exact zipRows_keys _ _ _ _ (Nat.le_of_eq hlen) (by rw [draw_length]) d (mem_oneOrMany (zipRows_length ..) hd)

/-- `predict` returns a key of the expectations it was computed from, hence a current arm -/
theorem predict_mem (le : Expect → Expect → Bool) (d : ExpDict α) (arms : List α) (hd : Dict.keys d = arms)
    (a : α) (h : argmaxFirst le d = some a) : a ∈ arms := hd ▸ argmaxFirst_mem le d a h

end Mab
