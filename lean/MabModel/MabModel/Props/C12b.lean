/-
  C12 (continued) — TreeBandit: per arm and leaf, the stored reward list is exactly that arm's rewards whose
  leaf (under the arm's own tree, an oracle) it is, across fit and any partial_fits; a query reads exactly the
  list of the query's leaf.
-/
import MabModel.Lemmas.Nhood
open Py

namespace Mab
variable {α : Type} [DecidableEq α]

/-- the rewards among `rs` (an arm's rows of a batch) whose leaf, according to `lv`, is `l` -/
def leafSlice (rs : List (Rat × Vec)) (lv : List Nat) (l : Nat) : List Rat :=
  ((List.zip rs lv).filter fun rl => rl.2 = l).map (·.1.1)

/-- what `_fit_arm` does to one arm's leaf store -/
def leafFold (rs : List (Rat × Vec)) (lv : List Nat) (d : Dict Nat (List Rat)) : Dict Nat (List Rat) :=
  (List.zip rs lv).foldl (fun d rl => d.set rl.2 (d.getD rl.2 [] ++ [rl.1.1])) d

/-- **C12 (TreeBandit, one training call).**  After `_fit_arm`, the list stored for leaf `l` is the list
    stored before followed by exactly those rewards of the arm's batch rows that fell into leaf `l`,
    in batch order. -/
theorem leafFold_spec (rs : List (Rat × Vec)) (lv : List Nat) (l : Nat) :
    ∀ d : Dict Nat (List Rat), (leafFold rs lv d).getD l [] = d.getD l [] ++ leafSlice rs lv l := by
  intro d
  rw [leafFold, Dict.getD_foldl_bucket (fun rl : (Rat × Vec) × Nat => rl.2) (fun rl => [rl.1.1]), leafSlice]
  exact congrArg (d.getD l [] ++ ·) List.map_eq_flatMap.symm

/-- the per-arm tasks of `_TreeBandit._parallel_fit`, folded over (arm, position) pairs -/
def treeFold (batch : Batch α) (leaves : List (List Nat)) (l : List (α × Nat)) (lr : Dict α (Dict Nat (List Rat))) :=
  l.foldl (fun lr (p : α × Nat) =>
    let rs := rowsOf batch p.1
    if rs.length = 0 then lr
    else
      let lv := leaves.getD p.2 []
      lr.modify p.1 fun d => (List.zip rs lv).foldl (fun d rl => d.set rl.2 (d.getD rl.2 [] ++ [rl.1.1])) d) lr

/-- one arm's task of `_TreeBandit._parallel_fit`: the step of `treeFold`, named so that `foldl_keyed_own` can take it -/
def treeTask (batch : Batch α) (leaves : List (List Nat)) (lr : Dict α (Dict Nat (List Rat))) (p : α × Nat) :=
  if (rowsOf batch p.1).length = 0 then lr else lr.modify p.1 (leafFold (rowsOf batch p.1) (leaves.getD p.2 []))

theorem treeTask_get_ne (batch : Batch α) (leaves : List (List Nat)) (lr : Dict α (Dict Nat (List Rat))) (p : α × Nat)
    (k : α) (hk : k ≠ p.1) : (treeTask batch leaves lr p).get? k = lr.get? k := by
  unfold treeTask
  split
  · rfl
  · exact Dict.get?_modify_ne hk

theorem treeFold_get (batch : Batch α) (leaves : List (List Nat)) :
    ∀ (l : List (α × Nat)) (lr : Dict α (Dict Nat (List Rat))) (a : α) (i : Nat),
      (l.map (·.1)).Nodup → (a, i) ∈ l →
      (treeFold batch leaves l lr).get? a =
        (lr.get? a).map fun d => if (rowsOf batch a).length = 0 then d else leafFold (rowsOf batch a) (leaves.getD i []) d := by
  intro l lr a i hnd hmem
  refine foldl_keyed_own (fun (s : Dict α (Dict Nat (List Rat))) k => s.get? k) (·.1) (treeTask batch leaves)
    (fun p o => o.map fun d => if (rowsOf batch p.1).length = 0 then d else leafFold (rowsOf batch p.1) (leaves.getD p.2 []) d)
    (treeTask_get_ne batch leaves) (fun s p => ?_) hnd hmem lr
  unfold treeTask
  split
  · cases s.get? p.1 <;> rfl
  · exact Dict.get?_modify_eq ..

set_option linter.unusedVariables false in
/-- an arm without rows in the batch keeps its leaf store -/
theorem tree_fit_empty_batch_arm (b : Bandit α) (batch : Batch α) (leaves : List (List Nat)) (a : α)
    (hnone : rowsOf batch a = []) (hn : b.arms.Nodup) :
    (treeFitArms b batch leaves).leafRewards.get? a = b.leafRewards.get? a :=
  foldl_frame (treeTask batch leaves) (·.get? a) b.arms.zipIdx (fun lr p _ => by
    by_cases e : a = p.1
    · rw [treeTask, ← e, hnone]; rfl
    · exact treeTask_get_ne batch leaves lr p a e) b.leafRewards

omit [DecidableEq α] in
theorem zipIdx_keyed {l : List α} {a : α} {i : Nat} (hn : l.Nodup) (hi : l[i]? = some a) :
    (l.zipIdx.map (·.1)).Nodup ∧ (a, i) ∈ l.zipIdx :=
  ⟨by rw [List.zipIdx_map_fst]; exact hn, by rw [List.mem_zipIdx_iff_getElem?]; simpa using hi⟩

/-- **C12 (TreeBandit, training).**  For the arm at position `i` of a duplicate-free arm list, one
    training call appends to the list of every leaf `l` exactly the rewards of *that arm's* batch rows
    that the oracle (the arm's own tree) puts into leaf `l` — nothing from other arms, nothing from
    other leaves. -/
theorem tree_leaf_rewards (b : Bandit α) (batch : Batch α) (leaves : List (List Nat)) (a : α) (i : Nat)
    (hn : b.arms.Nodup) (hi : b.arms[i]? = some a) (d0 : Dict Nat (List Rat)) (hd : b.leafRewards.get? a = some d0) (l : Nat) :
    ∃ d1, (treeFitArms b batch leaves).leafRewards.get? a = some d1 ∧
      d1.getD l [] = d0.getD l [] ++ leafSlice (rowsOf batch a) (leaves.getD i []) l := by
  obtain ⟨hnd, hmem⟩ := zipIdx_keyed hn hi
  refine ⟨_, (treeFold_get batch leaves b.arms.zipIdx b.leafRewards a i hnd hmem).trans (congrArg _ hd), ?_⟩
  split
  · next hz => rw [List.eq_nil_of_length_eq_zero hz]; exact (List.append_nil _).symm
  · exact leafFold_spec _ _ l d0

/-- **C12 (TreeBandit, `fit`).**  After `fit`, leaf `l` of the arm at position `i` holds exactly the
    rewards of that arm's (binarizer-converted) training rows the arm's tree puts into leaf `l`. -/
theorem tree_fit_leaf (b : Bandit α) (hnp : b.np = .tree) (batch : Batch α) (o : Oracle) (g : Rng) (a : α) (i : Nat)
    (hn : b.arms.Nodup) (hi : b.arms[i]? = some a) (l : Nat) :
    ∃ d1, (b.impFit batch o g).1.leafRewards.get? a = some d1 ∧
      d1.getD l [] = leafSlice (rowsOf (npBinarize b.lp batch).2 a) (o.leaves.getD i []) l := by
  simp only [Bandit.impFit, hnp]
  -- `fit` starts every arm from an empty leaf store, whose lists are all empty
  exact tree_leaf_rewards { b with lp := (npBinarize b.lp batch).1, leafRewards := Dict.fromKeys b.arms [] }
    (npBinarize b.lp batch).2 o.leaves a i hn hi [] (Dict.get?_fromKeys _ _ _ (List.mem_of_getElem? hi)) l

/-- **C12 (TreeBandit, `partial_fit`).**  `partial_fit` appends, per leaf, exactly the new rewards of
    that arm that fall into the leaf (the tree stays as it is); earlier observations are kept. -/
theorem tree_partialFit_leaf (b : Bandit α) (hnp : b.np = .tree) (batch : Batch α) (o : Oracle) (g : Rng) (a : α) (i : Nat)
    (hn : b.arms.Nodup) (hi : b.arms[i]? = some a) (d0 : Dict Nat (List Rat)) (hd : b.leafRewards.get? a = some d0) (l : Nat) :
    ∃ d1, (b.impPartialFit batch o g).1.leafRewards.get? a = some d1 ∧
      d1.getD l [] = d0.getD l [] ++ leafSlice (rowsOf (npBinarize b.lp batch).2 a) (o.leaves.getD i []) l := by
  simp only [Bandit.impPartialFit, hnp]
  exact tree_leaf_rewards { b with lp := (npBinarize b.lp batch).1 } (npBinarize b.lp batch).2 o.leaves a i hn hi d0 hd l

/-- **C12 (TreeBandit, query).**  For an arm that has observations, the expectation reported for a
    query row is the learning policy's statistic (a fresh single-arm policy `fit` on a reward list)
    over exactly the rewards stored for the leaf the arm's tree assigns to the query — for some
    state `g'` of the generator the leaf policies draw from (K3: that generator is the bandit's). -/
theorem tree_row_arm (b : Bandit α) (qleaf : List Nat) (a : α) (i : Nat)
    (hlr : (b.leafRewards.getD a []).length ≠ 0) :
    ∀ (l : List (α × Nat)) (acc : ExpDict α × Rng), (l.map (·.1)).Nodup → (a, i) ∈ l →
      ∃ g', (treeRowFold b qleaf l acc).1.get? a =
        some (b.treeLeafExp a ((b.leafRewards.getD a []).getD (qleaf.getD i 0) []) g').1 := by
  intro l acc hnd hmem
  obtain ⟨pre, post, rfl, _, hpost⟩ := split_at_key (·.1) hnd hmem
  -- the generator the leaf policy of `a` draws from is the one the arms before it have left
  refine ⟨(pre.foldl (treeRowTask b qleaf) acc).2, ?_⟩
  rw [treeRowFold_eq, foldl_keyed_at (fun (s : ExpDict α × Rng) k => s.1.get? k) (·.1) (treeRowTask b qleaf)
    (treeRowTask_get_ne b qleaf) pre post (a, i) acc hpost]
  simp only [treeRowTask, hlr, if_false]
  exact Dict.get?_set_eq _ _ _

theorem treeRow_exps (le : Expect → Expect → Bool) (b : Bandit α) (qleaf : List Nat) (g : Rng) :
    (b.treeRow le false qleaf g).1 = .inl (treeRowFold b qleaf b.arms.zipIdx (b.npExp, g)).1 := rfl

/-- `predict_expectations` of a TreeBandit row, arm by arm -/
theorem tree_leaf_exact (le : Expect → Expect → Bool) (b : Bandit α) (qleaf : List Nat) (g : Rng) (a : α) (i : Nat)
    (hn : b.arms.Nodup) (hi : b.arms[i]? = some a) (hlr : (b.leafRewards.getD a []).length ≠ 0) :
    ∃ g' d, (b.treeRow le false qleaf g).1 = .inl d ∧
      d.get? a = some (b.treeLeafExp a ((b.leafRewards.getD a []).getD (qleaf.getD i 0) []) g').1 := by
  obtain ⟨hnd, hmem⟩ := zipIdx_keyed hn hi
  obtain ⟨g', hg⟩ := tree_row_arm b qleaf a i hlr b.arms.zipIdx (b.npExp, g) hnd hmem
  exact ⟨g', _, treeRow_exps le b qleaf g, hg⟩

set_option linter.unusedVariables false in
/-- **C12 (TreeBandit, arms without observations).**  An arm whose leaf store is empty keeps the
    neutral expectation of the neighbourhood object (0) in every prediction. -/
theorem tree_unobserved_arm (le : Expect → Expect → Bool) (b : Bandit α) (qleaf : List Nat) (g : Rng)
    (a : α) (hn : b.arms.Nodup) (hlr : (b.leafRewards.getD a []).length = 0) :
    ∀ d, (b.treeRow le false qleaf g).1 = .inl d → d.get? a = b.npExp.get? a := by
  intro d hd
  rw [treeRow_exps, Sum.inl.injEq] at hd
  rw [← hd, treeRowFold_eq]
  -- the fold only ever writes keys whose leaf store is non-empty
  exact foldl_frame (treeRowTask b qleaf) (·.1.get? a) b.arms.zipIdx (fun acc p _ => by
    by_cases e : a = p.1
    · simp only [treeRowTask, ← e, hlr, if_true]
    · exact treeRowTask_get_ne b qleaf acc p a e) (b.npExp, g)

end Mab
