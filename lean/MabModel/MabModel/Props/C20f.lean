/-
  C20 (continued) — relabelling equivariance of prediction under every neighbourhood policy: row by row and
  worker by worker the relabelled bandit answers with the renamed outputs, consumes the random streams
  identically and ends in the relabelled state.  Every worker is a loop over its rows, so the simulation
  lemmas of `Lemmas/Nhood` reduce it to one row.
-/
import MabModel.Props.C20d
import MabModel.Props.C20e
import MabModel.Lemmas.Nhood
open Py
set_option linter.unusedSectionVars false

namespace Mab
variable {α β : Type} [DecidableEq α] [DecidableEq β]

/-- renaming one per-row result (`predict_expectations` on the left, `predict` on the right) -/
def renameRes (f : α → β) : ExpDict α ⊕ (Option α × ExpDict α) → ExpDict β ⊕ (Option β × ExpDict β)
  | .inl d => .inl (renameD f d)
  | .inr p => .inr (p.1.map f, renameD f p.2)

def renameArmOut (f : α → β) (p : Option α × ExpDict α) : Option β × ExpDict β := (p.1.map f, renameD f p.2)

def PredOut.rename (f : α → β) (o : PredOut α) : PredOut β :=
  { exps := o.exps.map (renameD f), arms := o.arms.map (renameArmOut f), ties := o.ties }

variable (f : α → β) (finv : β → α) (hinv : ∀ a, finv (f a) = a)

theorem selectIdx_relabel (b : Bandit α) (q : Vec) (rd : List Rat) (ks : List Nat) :
    (b.relabel f finv).selectIdx q rd ks = b.selectIdx q rd ks := by
  unfold Bandit.selectIdx
  -- the selection reads the stored contexts only
  have hd : ∀ m : Metric, (b.relabel f finv).hist.map (fun h => distExact m h.ctx q) = b.hist.map (fun h => distExact m h.ctx q) :=
    fun m => by simp only [Bandit.relabel_hist, relabelBatch, List.map_map, Function.comp_def]
  rw [Bandit.relabel_np]
  cases b.np <;> simp only [hd]
  rfl

theorem filterMap_getElem?_relabel (h : Batch α) (idx : List Nat) :
    (idx.filterMap fun j => (relabelBatch f h)[j]?) = relabelBatch f (idx.filterMap fun j => h[j]?) := by
  simp only [relabelBatch, List.getElem?_map, List.map_filterMap]

theorem clearPriv_relabel (lp : LP α) : clearPriv (lp.relabel f finv) = (clearPriv lp).relabel f finv :=
  relabel_mapKV f finv lp fun _ _ _ => rfl

theorem getD_map_relabel (l : List (LP α)) (c : Nat) :
    (l.map (LP.relabel f finv)).getD c default = (l.getD c default).relabel f finv := by
  simp only [List.getD_eq_getElem?_getD, List.getElem?_map]
  cases l[c]? <;> rfl

theorem default_relabel : (default : LP α).relabel f finv = (default : LP β) := rfl

theorem splitOuts_relabel (l : List (RowOut α)) :
    splitOuts (l.map (renameRes f)) = ((splitOuts l).1.map (renameD f), (splitOuts l).2.map (renameArmOut f)) := by
  unfold splitOuts
  refine Prod.ext ?_ ?_ <;>
    (simp only [List.filterMap_map, List.map_filterMap]
     congr 1
     funext x
     cases x <;> rfl)

theorem rowOut_relabel (le : Expect → Expect → Bool) (isPredict : Bool) (d : ExpDict α) :
    (if isPredict then toPred le (.inl (renameD f d)) else .inl (renameD f d)) =
      renameRes f (if isPredict then toPred le (.inl d) else .inl d) := by
  cases isPredict
  · rfl
  · simp only [if_true, toPred, renameRes, renameD, argmaxFirst_relabel]

include hinv

/-- **C20 (relabelling, one query row under Radius / KNearest / LSHNearest).** -/
theorem nhoodRow_relabel (le : Expect → Expect → Bool) (b : Bandit α) (isPredict : Bool) (lp : LP α) (i : Nat) (q : Vec)
    (rd : List Rat) (ks : List Nat) (g : Rng) :
    (b.relabel f finv).nhoodRow le isPredict (lp.relabel f finv) i q rd ks g =
      ((b.nhoodRow le isPredict lp i q rd ks g).1.relabel f finv,
       renameRes f (b.nhoodRow le isPredict lp i q rd ks g).2.1,
       (b.nhoodRow le isPredict lp i q rd ks g).2.2.1,
       (b.nhoodRow le isPredict lp i q rd ks g).2.2.2) := by
  have hs := selectIdx_relabel f finv b q rd ks
  by_cases h : (b.selectIdx q rd ks).1.length > 0
  · -- a neighbourhood: the copy is `fit` on the selected rows and asked; `predict` only adds the arg-max
    have hans : (b.relabel f finv).nhoodAns (lp.relabel f finv) i q rd ks g =
        ((b.nhoodAns lp i q rd ks g).1.relabel f finv, (b.nhoodAns lp i q rd ks g).2.1.map (renameD f),
         (b.nhoodAns lp i q rd ks g).2.2) := by
      unfold Bandit.nhoodAns
      rw [selectIdx_relabel, Bandit.relabel_hist, filterMap_getElem?_relabel, fit_relabel f finv hinv,
        predictExp_relabel f finv hinv]
    rw [nhoodRow_of_pos h, nhoodRow_of_pos (hs ▸ h), hans, hs, headD_renameD, rowOut_relabel]
  · rw [nhoodRow_of_empty h, nhoodRow_of_empty (hs ▸ h), hs]
    cases isPredict
    · rfl
    · simp only [if_true, renameRes, Bandit.relabel, Bandit.emptyDraw, List.getElem?_map, renameK_eq_renameD]

/-- the expectation a leaf reports does not depend on the label of the arm -/
theorem treeLeafExp_relabel (b : Bandit α) (a : α) (rewards : List Rat) (g : Rng) :
    (b.relabel f finv).treeLeafExp (f a) rewards g = b.treeLeafExp a rewards g := by
  -- the leaf policy of `f a` is the relabelled leaf policy of `a`, trained on the relabelled rewards
  have hl : ({ LP.init (b.relabel f finv).lp.kind [f a] (b.relabel f finv).lp.binz with ctxBin := false } : LP β) =
      ({ LP.init b.lp.kind [a] b.lp.binz with ctxBin := false } : LP α).relabel f finv :=
    congrArg (fun l : LP β => { l with ctxBin := false }) (init_relabel f finv b.lp.kind [a] b.lp.binz false)
  have hbatch : (rewards.map fun r => ({ arm := f a, reward := r } : Row β)) =
      relabelBatch f (rewards.map fun r => ({ arm := a, reward := r } : Row α)) := by
    simp only [relabelBatch, List.map_map, Function.comp_def]
  simp only [Bandit.treeLeafExp]
  rw [hl, hbatch, fit_relabel f finv hinv, predictExp_relabel f finv hinv]
  refine Prod.ext ?_ rfl
  rw [headD_renameD, renameD_eq, Dict.get?_rekey_id (Function.LeftInverse.injective hinv)]

theorem treeRowFold_relabel (b : Bandit α) (qleaf : List Nat) (g : Rng) :
    treeRowFold (b.relabel f finv) qleaf (b.relabel f finv).arms.zipIdx ((b.relabel f finv).npExp, g) =
      Prod.map (renameD f) id (treeRowFold b qleaf b.arms.zipIdx (b.npExp, g)) := by
  have hf := Function.LeftInverse.injective hinv
  rw [treeRowFold_eq, treeRowFold_eq, Bandit.relabel_arms, List.zipIdx_map, List.foldl_map]
  refine List.foldl_hom (init := (b.npExp, g)) (Prod.map (renameD f) id) fun acc p => ?_
  simp only [treeRowTask, Prod.map_fst, Prod.map_snd, id_eq, renameD_eq,
    show (b.relabel f finv).leafRewards = Dict.rekey f id b.leafRewards from rfl,
    Dict.getD_rekey_id hf, treeLeafExp_relabel f finv hinv, Dict.set_rekey_id hf]
  split <;> rfl

/-- **C20 (relabelling, one query row under TreeBandit).** -/
theorem treeRow_relabel (le : Expect → Expect → Bool) (b : Bandit α) (isPredict : Bool) (qleaf : List Nat) (g : Rng) :
    (b.relabel f finv).treeRow le isPredict qleaf g =
      (renameRes f (b.treeRow le isPredict qleaf g).1, (b.treeRow le isPredict qleaf g).2) := by
  rw [treeRow_eq, treeRow_eq, treeRowFold_relabel f finv hinv]
  obtain ⟨d, g'⟩ := treeRowFold b qleaf b.arms.zipIdx (b.npExp, g)
  cases isPredict with
  | false => rfl
  | true =>
    simp only [if_true, Prod.map, id_eq, renameD, argmaxFirst_relabel f le, Bandit.relabel_lp, relabel_kind, Bandit.relabel_arms]
    cases b.lp.kind with
    | greedy e => simp only []; split <;> simp only [renameRes, renameD, List.getElem?_map]
    | _ => rfl

theorem clusterRow_relabel (le : Expect → Expect → Bool) (isP : Bool) (o : Oracle) (start : Nat) (lps : List (LP α))
    (p : Vec × Nat) (g : Rng) :
    clusterRow le isP o start (lps.map (LP.relabel f finv)) p g =
      ((clusterRow le isP o start lps p g).1.map (LP.relabel f finv), renameRes f (clusterRow le isP o start lps p g).2.1,
       (clusterRow le isP o start lps p g).2.2) := by
  have hans : clusterAns o start (lps.map (LP.relabel f finv)) p g =
      ((clusterAns o start lps p g).1.relabel f finv, (clusterAns o start lps p g).2.1.map (renameD f), (clusterAns o start lps p g).2.2) := by
    unfold clusterAns
    rw [getD_map_relabel, clearPriv_relabel, predictExp_relabel f finv hinv]
  unfold clusterRow
  rw [hans, List.map_set, headD_renameD, rowOut_relabel]

/-- **C20 (relabelling, one worker's chunk of query rows, every neighbourhood policy).** -/
theorem predictChunk_relabel (le : Expect → Expect → Bool) (b : Bandit α) (isPredict : Bool) (qs : List Vec) (start : Nat)
    (o : Oracle) (g : Rng) :
    (b.relabel f finv).predictChunk le isPredict qs start o g =
      ((b.predictChunk le isPredict qs start o g).1.map (renameRes f), (b.predictChunk le isPredict qs start o g).2.1,
       (b.predictChunk le isPredict qs start o g).2.2) := by
  by_cases hnp : b.np.isStored = true
  · rw [predictChunk_of_stored hnp, predictChunk_of_stored (b := b.relabel f finv) hnp]
    have h : (chunkFold le (b.relabel f finv) isPredict o start qs.zipIdx ((b.relabel f finv).lp, [], [], g)).2 = _ :=
      (chunkFold_sim (fun lp lp' => lp' = lp.relabel f finv) (renameRes f) le le b (b.relabel f finv) isPredict isPredict
        o start qs.zipIdx (fun p _ lp lp' g e => by
          subst e
          have hr := nhoodRow_relabel f finv hinv le b isPredict lp (start + p.2) p.1 (o.dists.getD (start + p.2) [])
            (o.ksets.getD (start + p.2) []) g
          exact ⟨congrArg Prod.fst hr, congrArg Prod.snd hr⟩) b.lp _ [] [] g rfl).2
    rw [h]
  cases hn : b.np with
  | none => simp only [Bandit.predictChunk, Bandit.relabel_np, hn, List.map_nil]
  | radius | knn | lsh => exact absurd (hn ▸ rfl) hnp
  | clusters n =>
    rw [predictChunk_eq_clusterFold le b isPredict qs start o g n hn,
      predictChunk_eq_clusterFold le (b.relabel f finv) isPredict qs start o g n hn]
    have h : (clusterFold le isPredict o start qs.zipIdx ((b.relabel f finv).lps, [], g)).2 = _ :=
      (clusterFold_sim (fun l l' => l' = l.map (LP.relabel f finv)) (renameRes f) le le isPredict isPredict o start qs.zipIdx
        (fun p _ lps lps' g e => by subst e; rw [clusterRow_relabel f finv hinv]; exact ⟨rfl, rfl⟩) b.lps _ [] g rfl).2
    rw [h]
  | tree =>
    exact tree_predictChunk_sim (renameRes f) le le b (b.relabel f finv) hn hn isPredict isPredict
      (fun ql g => treeRow_relabel f finv hinv le b isPredict ql g) qs start o g

/-- **C20 (relabelling, `predict` / `predict_expectations` of the whole bandit).**  The relabelled bandit
    returns the renamed outputs (arms renamed, expectations keyed by the new names in the same order),
    consumes the random streams identically and ends in the relabelled state. -/
theorem impPredict_relabel (le : Expect → Expect → Bool) (b : Bandit α) (isPredict : Bool) (m : Option Nat) (qs : List Vec)
    (o : Oracle) (g : Rng) :
    (b.relabel f finv).impPredict le isPredict m qs o g =
      ((b.impPredict le isPredict m qs o g).1.relabel f finv, (b.impPredict le isPredict m qs o g).2.1.rename f,
       (b.impPredict le isPredict m qs o g).2.2) := by
  by_cases hnp : b.np = .none
  · unfold Bandit.impPredict
    rw [Bandit.relabel_np, hnp]
    cases isPredict
    · simp only [Bool.false_eq_true, if_false, Bandit.relabel_lp, predictExp_relabel f finv hinv]; rfl
    · simp only [if_true, Bandit.relabel_lp, predict_relabel f finv hinv]; rfl
  · rw [impPredict_of_np le b hnp, impPredict_of_np le (b.relabel f finv) hnp, predictChunk_relabel f finv hinv,
      splitOuts_relabel, Out.unwrap_map (renameD f) rfl, Out.unwrap_map (renameArmOut f) rfl]
    rfl

end Mab
