/-
  C13 — warm_start only initialises cold arms, from their nearest trained arm.
-/
import MabModel.Lemmas.Refine
import MabModel.Lemmas.WarmStart
open Py

namespace Mab
variable {α : Type} [DecidableEq α]

set_option linter.unusedSectionVars false in
/-- `utils.argmin`: the returned key is one of the keys and carries a minimal value -/
theorem argminFirst_spec (l : List (α × Rat)) (w : α) (h : argminFirst l = some w) :
    ∃ v, (w, v) ∈ l ∧ ∀ q ∈ l, v ≤ q.2 := by
  cases l with
  | nil => cases h
  | cons x t =>
    rw [argminFirst_eq_fold, Option.some.injEq] at h
    obtain ⟨i1, i2, i3⟩ := foldl_keep_first (fun a b : α × Rat => b.2 ≤ a.2) (fun _ _ => Rat.le_total)
      (fun _ _ _ h1 h2 => Rat.le_trans h2 h1) t x
    generalize List.foldl _ x t = r at h i1 i2 i3
    subst h
    refine ⟨r.2, ?_, List.forall_mem_cons.mpr ⟨i1, i2⟩⟩
    rcases i3 with e | ⟨pre, post, e, _, _⟩
    · rw [e]; exact List.mem_cons_self
    · rw [e]; exact List.mem_cons_of_mem _ (List.mem_append_right _ List.mem_cons_self)

/-- **C13 (choice of source).**  Every pair `(cold, warm)` that `warm_start` acts on consists of an arm
    that is cold (never observed since the last fit, not warm-started before) and a *trained* arm
    that is closest to it among all trained arms, at a distance not exceeding the quantile threshold. -/
theorem ws_pairs_spec (s : LP α) (keys : List α) (raw : α → α → Option Rat) (q : Rat) (m : List (α × α))
    (h : s.coldToWarm keys raw q = some m) :
    ∃ thr, distanceThreshold keys raw q = some thr ∧
      ∀ p ∈ m, p.1 ∈ s.coldArms ∧ p.2 ∈ s.trainedArms ∧ armDistance raw p.1 p.2 ≤ thr ∧
        ∀ t ∈ s.trainedArms, armDistance raw p.1 p.2 ≤ armDistance raw p.1 t := by
  rw [coldToWarm_eq, Option.map_eq_some_iff] at h
  obtain ⟨thr, hthr, rfl⟩ := h
  refine ⟨thr, hthr, fun p hp => ?_⟩
  obtain ⟨c, hc, hpick⟩ := List.mem_filterMap.mp hp
  obtain ⟨rfl, harg, hle⟩ := pickWarm_some.mp hpick
  obtain ⟨v, hv, hmin⟩ := argminFirst_spec _ _ harg
  obtain ⟨t0, ht0, e0⟩ := List.mem_map.mp hv
  obtain ⟨rfl, rfl⟩ := Prod.mk.inj e0
  exact ⟨hc, ht0, hle, fun t ht => hmin (t, armDistance raw p.1 t) (List.mem_map.mpr ⟨t, ht, rfl⟩)⟩

/-- sources and targets of a warm start are disjoint -/
theorem cold_not_trained (s : LP α) (a : α) (hc : a ∈ s.coldArms) : a ∉ s.trainedArms := by
  obtain ⟨_, r, hr, htr, _⟩ := (cold_arms_spec s a).mp hc
  intro ht
  simp [LP.trainedArms, hr, htr] at ht

theorem coldToWarm_targets (s : LP α) (keys : List α) (raw : α → α → Option Rat) (q : Rat) (m : List (α × α))
    (h : s.coldToWarm keys raw q = some m) : (m.map (·.1)).Sublist s.coldArms := by
  rw [coldToWarm_eq, Option.map_eq_some_iff] at h
  obtain ⟨thr, _, rfl⟩ := h
  exact filterMap_fst_sublist _ _ fun c p hp => (pickWarm_some.mp hp).1

/-- **C13 (trained and untouched arms).**  For every arm that is not warm started by this call, the
    learned part of its record (everything but the Softmax share, which is recomputed from the new
    means of all arms) and its status are exactly what they were. -/
theorem ws_untouched (s s' : LP α) (keys : List α) (raw : α → α → Option Rat) (q : Rat) (m : List (α × α))
    (hk : s.kind ≠ .random) (hm : s.coldToWarm keys raw q = some m) (h : s.warmStart keys raw q = some s')
    (a : α) (ha : a ∉ m.map (·.1)) :
    (s'.st.get? a).map (fun r => (r.strip s.kind, r.trained, r.warm, r.warmBy)) =
      (s.st.get? a).map (fun r => (r.strip s.kind, r.trained, r.warm, r.warmBy)) := by
  rw [warmStart_eq s keys raw q hk, hm, Option.map_some, Option.some.injEq] at h
  subst h
  exact warmed_get_other _ m s (fun M r =>
    Prod.ext (expRec_strip ..) (expRec_view (fun r => (r.trained, r.warm, r.warmBy)) (fun _ _ => rfl) ..)) a ha

/-- **C13 (warm-started arms).**  In a well-formed policy, every arm the call warm starts ends up with
    an exact copy of the learned state its source — the closest trained arm — had before the call,
    is flagged warm with that source recorded, and stays untrained. -/
theorem ws_target (s s' : LP α) (keys : List α) (raw : α → α → Option Rat) (q : Rat) (m : List (α × α))
    (hwf : s.WF) (hk : s.kind ≠ .random) (hm : s.coldToWarm keys raw q = some m)
    (h : s.warmStart keys raw q = some s') (p : α × α) (hp : p ∈ m) :
    ∃ src r0 r', s.st.get? p.2 = some src ∧ s.st.get? p.1 = some r0 ∧ s'.st.get? p.1 = some r' ∧
      r'.strip s.kind = (copyRec s.kind src r0).strip s.kind ∧
      r'.warm = true ∧ r'.warmBy = some p.2 ∧ r'.trained = false := by
  rw [warmStart_eq s keys raw q hk, hm, Option.map_some, Option.some.injEq] at h
  subst h
  obtain ⟨thr, _, hspec⟩ := ws_pairs_spec s keys raw q m hm
  have hsub := coldToWarm_targets s keys raw q m hm
  have hnd : (m.map (·.1)).Nodup := hsub.nodup (hwf.nodup.filter _)
  have hdis : ∀ p' ∈ m, p'.2 ∉ m.map (·.1) := fun p' hp' hin =>
    cold_not_trained s p'.2 (hsub.subset hin) (hspec p' hp').2.1
  obtain ⟨hc, ht, _, _⟩ := hspec p hp
  obtain ⟨_, src, hsrc, _⟩ := (trained_arms_spec s p.2).mp ht
  obtain ⟨_, r0, hr0, htr, _⟩ := (cold_arms_spec s p.1).mp hc
  have hcf := copyFold_get_target m s hnd hdis p hp src hsrc
  rw [hr0, Option.map_some] at hcf
  -- through the Softmax pass, which changes the share only, and the status pass
  have h1 := expOp_get_view (s.copyFold m) (fun r => (r.strip (s.copyFold m).kind, r.trained))
    (fun _ => Prod.ext (expRec_strip ..) (expRec_view (·.trained) (fun _ _ => rfl) ..)) p.1
  rw [hcf, Option.map_some, copyFold_kind] at h1
  obtain ⟨r1, hr1, hs1⟩ := Option.map_eq_some_iff.mp h1
  have hmw := markWarm_get_target m (s.copyArms m) hnd p hp
  rw [LP.copyArms, hr1, Option.map_some] at hmw
  exact ⟨src, r0, _, hsrc, hr0, hmw, congrArg Prod.fst hs1, rfl, rfl,
    (congrArg Prod.snd hs1).trans ((copyRec_trained ..).trans htr)⟩

end Mab
