/-
  C05 (continued) — Clusters: the per-cluster policy copies of a worker are changed by queries only in ways no
  query can observe (private-generator flags, last Thompson draw), so the rows of a chunk do not influence each
  other and any contiguous split of the rows gives the single-worker outputs, draws and requests.
-/
import MabModel.Lemmas.Norm
import MabModel.Lemmas.Nhood
import MabModel.Lemmas.ListPerm
open Py

namespace Mab
variable {α : Type} [DecidableEq α]

/-- what a cluster's policy is, as far as any query can tell -/
def canon (x : LP α) : LP α := (clearPriv x).norm

theorem clearPriv_norm (x : LP α) : (clearPriv x).norm = clearPriv x.norm := by
  by_cases hk : x.kind = .thompson
  · rw [norm_thompson hk, norm_thompson (s := clearPriv x) hk]
    simp only [clearPriv, LP.normT, zeroExp, Dict.mapKV_mapKV]
  · rw [norm_other hk, norm_other (s := clearPriv x) hk]

theorem clearPriv_idem (x : LP α) : clearPriv (clearPriv x) = clearPriv x := by
  simp only [clearPriv, Dict.mapKV_mapKV]

theorem canon_after_query (x : LP α) (m : Option Nat) (ctxs : List Vec) (own : Stream) (g : Rng) :
    canon ((clearPriv x).predictExp m ctxs own g).1 = canon x := by
  unfold canon
  rw [clearPriv_norm, (predictExp_readonly (clearPriv x) m ctxs own g).1, ← clearPriv_norm, clearPriv_idem]

theorem clusterRow_canon (le : Expect → Expect → Bool) (isPredict : Bool) (o : Oracle) (start : Nat) (p : Vec × Nat)
    (lps lps' : List (LP α)) (g : Rng) (h : lps.map canon = lps'.map canon) :
    (clusterRow le isPredict o start lps p g).2 = (clusterRow le isPredict o start lps' p g).2 ∧
    (clusterRow le isPredict o start lps p g).1.map canon = lps.map canon := by
  have hout : (clusterAns o start lps p g).2 = (clusterAns o start lps' p g).2 :=
    predictExp_out_of_norm _ _ _ _ _ g (getD_map_congr canon lps lps' _ default h)
  refine ⟨by simp only [clusterRow, congrArg Prod.fst hout, congrArg Prod.snd hout], ?_⟩
  exact map_set_of_eq canon _ _ _ default (canon_after_query _ _ _ _ g)

/-- **C05 (Clusters, row-locality).**  Whatever the per-cluster policy copies of a worker have answered
    before, the outputs, draws and requests for the next rows are the same; the canonical form of
    every cluster policy is invariant under queries. -/
theorem clusterFold_congr (le : Expect → Expect → Bool) (isPredict : Bool) (o : Oracle) (start : Nat) :
    ∀ (qs : List (Vec × Nat)) (lps lps' : List (LP α)) (outs : List (ExpDict α ⊕ (Option α × ExpDict α))) (g : Rng),
      lps.map canon = lps'.map canon →
      (clusterFold le isPredict o start qs (lps, outs, g)).2 = (clusterFold le isPredict o start qs (lps', outs, g)).2 ∧
      (clusterFold le isPredict o start qs (lps, outs, g)).1.map canon = lps.map canon := by
  intro qs lps lps' outs g h
  -- both workers keep the canonical forms they started with
  obtain ⟨⟨r1, _⟩, r2⟩ := clusterFold_sim
    (fun a a' => a.map canon = lps.map canon ∧ a'.map canon = lps.map canon) id le le isPredict isPredict o start qs
    (fun p _ a a' g ⟨h1, h2⟩ =>
      have s := clusterRow_canon le isPredict o start p a a' g (h1.trans h2.symm)
      have s' := clusterRow_canon le isPredict o start p a' a g (h2.trans h1.symm)
      ⟨⟨s.2.trans h1, s'.2.trans h2⟩, s.1.symm⟩) lps lps' outs g ⟨rfl, h.symm⟩
  rw [List.map_id, List.map_id] at r2
  exact ⟨r2.symm, r1⟩

/-- one row: the canonical form of every cluster policy is unchanged, and the outputs depend on the policies only
    through their canonical forms -/
theorem clusterStep (le : Expect → Expect → Bool) (isPredict : Bool) (o : Oracle) (start : Nat) (p : Vec × Nat)
    (lps lps' : List (LP α)) (outs : List (ExpDict α ⊕ (Option α × ExpDict α))) (g : Rng)
    (h : lps.map canon = lps'.map canon) :
    (clusterFold le isPredict o start [p] (lps, outs, g)).2 = (clusterFold le isPredict o start [p] (lps', outs, g)).2 ∧
    (clusterFold le isPredict o start [p] (lps, outs, g)).1.map canon = lps.map canon :=
  clusterFold_congr le isPredict o start [p] lps lps' outs g h

/-- **C05 (Clusters, any split of a chunk).**  One worker handling `qs₁ ++ qs₂` gives the same outputs,
    requests and tape as handling `qs₁` and then `qs₂` with fresh copies of the cluster policies. -/
theorem cluster_chunk_split (le : Expect → Expect → Bool) (b : Bandit α) (isPredict : Bool) (o : Oracle) (start : Nat)
    (qs₁ qs₂ : List (Vec × Nat)) (g : Rng) :
    (clusterFold le isPredict o start (qs₁ ++ qs₂) (b.lps, [], g)).2 =
      (clusterFold le isPredict o start qs₂
        (b.lps, (clusterFold le isPredict o start qs₁ (b.lps, [], g)).2.1,
                (clusterFold le isPredict o start qs₁ (b.lps, [], g)).2.2)).2 := by
  rw [clusterFold_append]
  exact (clusterFold_congr le isPredict o start qs₂ _ b.lps _ _
    (clusterFold_congr le isPredict o start qs₁ b.lps b.lps [] g rfl).2).1

end Mab
