/-
  C06 (continued) — incremental = batch at the level of the whole bandit for the neighbourhood policies that store
  the history: Radius / KNearest (identical state, any chunking, with or without a Thompson binarizer) and
  LSHNearest (same hyper-planes, same stored rows, every bucket of every table holds the same positions — hence
  every later query selects the same rows and returns the same outputs); and for Clusters, where `partial_fit` is a
  `fit` on the accumulated history: same history, same labels, and cluster by cluster the same policy state up to
  the last Thompson draw.
-/
import MabModel.Lemmas.Step
import MabModel.Props.C11
import MabModel.Props.C07b
import MabModel.Lemmas.Store
open Py
set_option linter.unusedSectionVars false

namespace Mab
variable {α : Type} [DecidableEq α]

/-- the binarizer of a Thompson policy is applied row by row: binarizing a concatenation is concatenating -/
theorem npBinarize_append (lp : LP α) (c₀ c₁ : Batch α) :
    (npBinarize lp (c₀ ++ c₁)).2 = (npBinarize lp c₀).2 ++ (npBinarize (npBinarize lp c₀).1 c₁).2 ∧
    (npBinarize lp (c₀ ++ c₁)).1 = (npBinarize (npBinarize lp c₀).1 c₁).1 := by
  simp only [npBinarize_eq, List.map_append, LP.npConverts, LP.npConv, ← Bool.or_assoc, Bool.or_self, and_self]

theorem hist_incremental_eq_batch {b : Bandit α} (hnp : (∃ r m pr, b.np = .radius r m pr) ∨ (∃ k m, b.np = .knn k m))
    {c₀ c₁ : Batch α} {o o' : Oracle} {g : Rng} :
    ((b.impFit c₀ o g).1.impPartialFit c₁ o' g).1 = (b.impFit (c₀ ++ c₁) o g).1 := by
  obtain ⟨h1, h2⟩ := npBinarize_append b.lp c₀ c₁
  rcases hnp with ⟨r, m, pr, hnp⟩ | ⟨k, m, hnp⟩ <;>
  · simp only [Bandit.impFit, Bandit.impPartialFit, hnp]
    rw [h1, h2]

/-- **C06 (Radius, whole bandit).**  `fit` on a prefix followed by `partial_fit` on the rest is `fit` on everything:
    the very same state. -/
theorem radius_incremental_eq_batch (b : Bandit α) (r : Rat) (m : Metric) (pr : Option (List Rat))
    (hnp : b.np = .radius r m pr) (c₀ c₁ : Batch α) (o o' : Oracle) (g : Rng) :
    ((b.impFit c₀ o g).1.impPartialFit c₁ o' g).1 = (b.impFit (c₀ ++ c₁) o g).1 :=
  hist_incremental_eq_batch (.inl ⟨r, m, pr, hnp⟩)

/-- **C06 (KNearest, whole bandit).** -/
theorem knn_incremental_eq_batch (b : Bandit α) (k : Nat) (m : Metric)
    (hnp : b.np = .knn k m) (c₀ c₁ : Batch α) (o o' : Oracle) (g : Rng) :
    ((b.impFit c₀ o g).1.impPartialFit c₁ o' g).1 = (b.impFit (c₀ ++ c₁) o g).1 :=
  hist_incremental_eq_batch (.inr ⟨k, m, hnp⟩)

/-- **C06 (Radius, any chunking).**  `fit` on the first chunk and `partial_fit` on every further chunk leave the
    very state one `fit` on all rows leaves. -/
theorem radius_chunked_eq_batch (b : Bandit α) (r : Rat) (m : Metric) (pr : Option (List Rat))
    (hnp : b.np = .radius r m pr) (o : Oracle) (g : Rng) : ∀ (cs : List (Batch α)) (c₀ : Batch α),
    cs.foldl (fun acc c => (acc.impPartialFit c o g).1) (b.impFit c₀ o g).1 = (b.impFit (c₀ ++ cs.flatten) o g).1 :=
  foldl_eq_of_append (fun c => (b.impFit c o g).1) _ fun c₀ c => radius_incremental_eq_batch b r m pr hnp c₀ c o o g

theorem knn_chunked_eq_batch (b : Bandit α) (k : Nat) (m : Metric)
    (hnp : b.np = .knn k m) (o : Oracle) (g : Rng) : ∀ (cs : List (Batch α)) (c₀ : Batch α),
    cs.foldl (fun acc c => (acc.impPartialFit c o g).1) (b.impFit c₀ o g).1 = (b.impFit (c₀ ++ cs.flatten) o g).1 :=
  foldl_eq_of_append (fun c => (b.impFit c o g).1) _ fun c₀ c => knn_incremental_eq_batch b k m hnp c₀ c o o g

/-- two LSH bandits that agree on everything except the representation of the tables, both satisfying the bucket
    invariant: every bucket of every table holds the same positions -/
structure LshSame (b b' : Bandit α) : Prop where
  same : b' = { b with tables := b'.tables }
  inv : b.LshInv
  inv' : b'.LshInv

theorem LshSame.np {b b' : Bandit α} (h : LshSame b b') : b'.np = b.np := by rw [h.same]
theorem LshSame.lp {b b' : Bandit α} (h : LshSame b b') : b'.lp = b.lp := by rw [h.same]
theorem LshSame.hist {b b' : Bandit α} (h : LshSame b b') : b'.hist = b.hist := by rw [h.same]

theorem LshSame.trans {a b c : Bandit α} (h1 : LshSame a b) (h2 : LshSame b c) : LshSame a c :=
  ⟨by rw [h2.same]; rw [h1.same], h1.inv, h2.inv'⟩

theorem lshSame_buckets (b b' : Bandit α) (h : LshSame b b') :
    (List.zip b'.planes b'.tables).map (fun pt => (pt.1, fun hh => pt.2.getD hh [])) =
      (List.zip b.planes b.tables).map (fun pt => (pt.1, fun hh => pt.2.getD hh [])) := by
  rw [lsh_buckets_eq b h.inv, lsh_buckets_eq b' h.inv', h.same]

/-- … hence every query selects the very same rows, in the same order -/
theorem lshSame_selectIdx (b b' : Bandit α) (h : LshSame b b') (d t : Nat) (pr : Option (List Rat))
    (hnp : b.np = .lsh d t pr) (q : Vec) (ds : List Rat) (ks : List Nat) : b'.selectIdx q ds ks = b.selectIdx q ds ks := by
  rw [lsh_selectIdx_eq b hnp h.inv, lsh_selectIdx_eq b' (h.np.trans hnp) h.inv', h.same]

theorem lshSame_nhoodRow (le : Expect → Expect → Bool) (b b' : Bandit α) (h : LshSame b b') (d t : Nat) (pr : Option (List Rat))
    (hnp : b.np = .lsh d t pr) (isPredict : Bool) (lp : LP α) (i : Nat) (q : Vec) (ds : List Rat) (ks : List Nat) (g : Rng) :
    b'.nhoodRow le isPredict lp i q ds ks g = b.nhoodRow le isPredict lp i q ds ks g := by
  unfold Bandit.nhoodRow
  rw [lshSame_selectIdx b b' h d t pr hnp q ds ks, h.same]

/-- **C06 (LSHNearest, queries).**  Bandits that agree up to the representation of the tables answer every query
    alike: same outputs, same sampler requests. -/
theorem lshSame_impPredict (le : Expect → Expect → Bool) (b b' : Bandit α) (h : LshSame b b') (d t : Nat) (pr : Option (List Rat))
    (hnp : b.np = .lsh d t pr) (isPredict : Bool) (mm : Option Nat) (qs : List Vec) (o : Oracle) (g : Rng) :
    (b'.impPredict le isPredict mm qs o g).2 = (b.impPredict le isPredict mm qs o g).2 := by
  unfold Bandit.impPredict Bandit.parallelPredict Bandit.predictChunk
  simp only [hnp, h.np.trans hnp, h.lp, lshSame_nhoodRow le b b' h d t pr hnp]

/-- **C06 (LSHNearest, whole bandit).**  `fit` on a non-empty prefix followed by `partial_fit` on the rest stores the
    same rows, draws the same hyper-planes and fills every bucket of every table with the same positions as one `fit`
    on everything (with or without a Thompson binarizer). -/
theorem lsh_incremental_eq_batch (b : Bandit α) (d t : Nat) (pr : Option (List Rat)) (hnp : b.np = .lsh d t pr)
    (c₀ c₁ : Batch α) (hne : c₀ ≠ []) (o o' : Oracle) (g : Rng) :
    LshSame (b.impFit (c₀ ++ c₁) o g).1 ((b.impFit c₀ o g).1.impPartialFit c₁ o' g).1 := by
  have hnp1 : (b.impFit c₀ o g).1.np = .lsh d t pr := (impFit_frame b c₀ o g).1.trans hnp
  have i0 := lshInv_fit_any b d t pr hnp c₀ o g
  have i1 := lshInv_partialFit_any (b.impFit c₀ o g).1 d t pr hnp1 c₁ o' g i0
  have i2 := lshInv_fit_any b d t pr hnp (c₀ ++ c₁) o g
  obtain ⟨h1, h2⟩ := npBinarize_append b.lp c₀ c₁
  have hw : batchWidth (c₀ ++ c₁) = batchWidth c₀ := by
    cases c₀ with
    | nil => exact absurd rfl hne
    | cons r c => rfl
  refine ⟨?_, i2, i1⟩
  simp only [Bandit.impFit, Bandit.impPartialFit, hnp, lshFitOp, hw]
  rw [h1, h2]

/-- … so every later query coincides -/
theorem lsh_incremental_queries (le : Expect → Expect → Bool) (b : Bandit α) (d t : Nat) (pr : Option (List Rat))
    (hnp : b.np = .lsh d t pr) (c₀ c₁ : Batch α) (hne : c₀ ≠ []) (o o' : Oracle) (g : Rng)
    (isPredict : Bool) (mm : Option Nat) (qs : List Vec) (oq : Oracle) (gq : Rng) :
    (((b.impFit c₀ o g).1.impPartialFit c₁ o' g).1.impPredict le isPredict mm qs oq gq).2 =
      ((b.impFit (c₀ ++ c₁) o g).1.impPredict le isPredict mm qs oq gq).2 := by
  have h := lsh_incremental_eq_batch b d t pr hnp c₀ c₁ hne o o' g
  exact lshSame_impPredict le _ _ h d t pr ((impFit_frame b _ o g).1.trans hnp) isPredict mm qs oq gq

theorem lshSame_partialFit {b b' : Bandit α} (h : LshSame b b') {d t : Nat} {pr : Option (List Rat)} (hnp : b.np = .lsh d t pr)
    {c : Batch α} {o o' : Oracle} {g : Rng} : LshSame (b.impPartialFit c o g).1 (b'.impPartialFit c o' g).1 := by
  have hnp' : b'.np = .lsh d t pr := h.np.trans hnp
  refine ⟨?_, lshInv_partialFit_any b d t pr hnp c o g h.inv, lshInv_partialFit_any b' d t pr hnp' c o' g h.inv'⟩
  simp only [Bandit.impPartialFit, hnp, hnp', h.lp, h.hist, lshFitOp]
  rw [h.same]

/-- **C06 (LSHNearest, any chunking).**  `fit` on a non-empty first chunk followed by `partial_fit` on the remaining
    chunks agrees with one `fit` on all rows up to the representation of the tables — and therefore on every query. -/
theorem lsh_chunked_eq_batch (b : Bandit α) (d t : Nat) (pr : Option (List Rat)) (hnp : b.np = .lsh d t pr) (o : Oracle) (g : Rng) :
    ∀ (cs : List (Batch α)) (c₀ : Batch α), c₀ ≠ [] →
      LshSame (b.impFit (c₀ ++ cs.flatten) o g).1 (cs.foldl (fun acc c => (acc.impPartialFit c o g).1) (b.impFit c₀ o g).1) := by
  intro cs c₀ hne
  induction cs using List.reverseRecOn with
  | nil =>
    rw [List.flatten_nil, List.append_nil]
    exact ⟨rfl, lshInv_fit_any b d t pr hnp c₀ o g, lshInv_fit_any b d t pr hnp c₀ o g⟩
  | append_singleton cs c ih =>
    -- the last chunk: one `partial_fit` after a `fit` on everything before it, by the two-chunk case
    have h1 := lsh_incremental_eq_batch b d t pr hnp (c₀ ++ cs.flatten) c
      (fun e => hne (List.append_eq_nil_iff.mp e).1) o o g
    rw [List.flatten_append, List.flatten_singleton, ← List.append_assoc, List.foldl_append]
    exact h1.trans (lshSame_partialFit ih ((impFit_frame b _ o g).1.trans hnp))

/-- no policy of the bandit carries a Thompson binarizer (then `npBinarize` is the identity) -/
def NoTsBinz (b : Bandit α) : Prop := ∀ l ∈ b.lp :: b.lps, ¬ (l.kind = .thompson ∧ l.binz.isSome = true)

/-- … so the binarizer step of `_Clusters.fit` / `partial_fit` (taken from the first cluster's policy) changes nothing -/
theorem NoTsBinz.npBinarize_head {b : Bandit α} (hb : NoTsBinz b) (x : Batch α) :
    npBinarize (b.lps.headD b.lp) x = (b.lps.headD b.lp, x) :=
  npBinarize_other _ (hb _ (List.headD_mem b.lps b.lp)) x

/-- `_Clusters.partial_fit` *is* a `fit` on the accumulated history (k-means and every cluster policy are refit) -/
theorem clusters_partialFit_is_fit (b : Bandit α) (n : Nat) (hnp : b.np = .clusters n) (hb : NoTsBinz b) (c : Batch α)
    (o : Oracle) (g : Rng) : b.impPartialFit c o g = b.impFit (b.hist ++ c) o g := by
  simp only [Bandit.impPartialFit, Bandit.impFit, hnp, hb.npBinarize_head]

/-- the hypothesis `hflag` of the theorems below holds for a freshly constructed bandit: all cluster policies are copies of
    one policy (`NoTsBinz` and "not Random" are restrictions on the configuration, not established here) -/
theorem clusters_init_flags (arms : List α) (kind : Kind) (n : Nat) (bz : Option (α → Rat → Rat)) (k1 : Bool) :
    ∀ l ∈ (Bandit.init arms kind (.clusters n) bz k1).lps,
      l.ctxBin = ((Bandit.init arms kind (.clusters n) bz k1).lps.headD (Bandit.init arms kind (.clusters n) bz k1).lp).ctxBin := by
  intro l hl
  simp only [Bandit.init, List.mem_replicate] at hl
  rw [hl.2]
  cases n <;> rfl

theorem noTsBinz_of_bsame (b b0 : Bandit α) (h : BSame b b0) (hb0 : NoTsBinz b0) : NoTsBinz b := by
  intro l hl
  rcases List.mem_cons.mp hl with e | hl
  · rw [e, h.lp.kind, h.lp.binz]; exact hb0 _ List.mem_cons_self
  · obtain ⟨y, hy, c⟩ := forall₂_mem_left h.lps l hl
    rw [c.kind, c.binz]
    exact hb0 y (List.mem_cons_of_mem _ hy)

/-- a `fit` of any Clusters bandit with the configuration of `b0` leaves a bandit with the configuration of `b0`
    whose history is the new data -/
theorem clusters_fit_keeps (b b0 : Bandit α) (n : Nat) (hnp : b.np = .clusters n) (hsame : BSame b b0)
    (hb0 : NoTsBinz b0) (hflag : ∀ l ∈ b0.lps, l.ctxBin = (b0.lps.headD b0.lp).ctxBin) (x : Batch α) (o : Oracle) (g : Rng) :
    BSame (b.impFit x o g).1 b0 ∧ (b.impFit x o g).1.hist = x ∧ (b.impFit x o g).1.np = .clusters n := by
  have hb := noTsBinz_of_bsame b b0 hsame hb0
  have hhead : SameCfg (b.lps.headD b.lp) (b0.lps.headD b0.lp) := forall₂_head _ _ _ _ hsame.lps hsame.lp
  simp only [Bandit.impFit, hnp, hb.npBinarize_head, clustersFitOp, and_true]
  refine ⟨hnp ▸ hsame.np, hsame.arms, hsame.lp, ?_, hsame.npExp⟩
  -- every cluster policy gets the head's flag, which is the flag its counterpart in `b0` has; then it is `fit`
  obtain ⟨hlen, hget⟩ := List.forall₂_iff_get.mp hsame.lps
  refine List.forall₂_iff_get.mpr ⟨by rw [List.length_map, List.length_zipIdx, List.length_map, hlen],
    fun i h1 h2 => ?_⟩
  have hxy := hget i (hlen ▸ h2) h2
  simp only [List.get_eq_getElem, List.getElem_map, List.getElem_zipIdx] at hxy ⊢
  exact (SameCfg.symm (fit_sameCfg _ _ _)).trans (hxy.ctxBin_congr (hhead.ctxBin.trans (hflag _ (List.getElem_mem _)).symm))

/-- … and so does a `partial_fit`, whose history is the old one followed by the new data; hence any number of them -/
theorem clusters_partialFits_keep (b0 : Bandit α) (n : Nat) (hb0 : NoTsBinz b0)
    (hflag : ∀ l ∈ b0.lps, l.ctxBin = (b0.lps.headD b0.lp).ctxBin) (o : Oracle) (g : Rng) (cs : List (Batch α)) (x : Bandit α)
    (hnp : x.np = .clusters n) (hsame : BSame x b0) :
    BSame (cs.foldl (fun acc c => (acc.impPartialFit c o g).1) x) b0 ∧
    (cs.foldl (fun acc c => (acc.impPartialFit c o g).1) x).np = .clusters n ∧
    (cs.foldl (fun acc c => (acc.impPartialFit c o g).1) x).hist = x.hist ++ cs.flatten := by
  induction cs generalizing x with
  | nil => exact ⟨hsame, hnp, (List.append_nil _).symm⟩
  | cons c cs ih =>
    have hstep := clusters_fit_keeps x b0 n hnp hsame hb0 hflag (x.hist ++ c) o g
    rw [← clusters_partialFit_is_fit x n hnp (noTsBinz_of_bsame x b0 hsame hb0) c o g] at hstep
    have h := ih _ hstep.2.2 hstep.1
    rwa [hstep.2.1, List.append_assoc] at h

/-- **C06 (Clusters, any chunking).**  `fit` on the first chunk and `partial_fit` on every further chunk: the stored
    history is the concatenation, and the last call leaves, cluster by cluster, the policy states a single `fit` on
    everything leaves (k-means giving the same labels for the whole history) — up to the last Thompson draw. -/
theorem clusters_chunked_eq_batch (b : Bandit α) (n : Nat) (hnp : b.np = .clusters n) (hb : NoTsBinz b)
    (hrs : ∀ l ∈ b.lps, l.kind ≠ .random) (hflag : ∀ l ∈ b.lps, l.ctxBin = (b.lps.headD b.lp).ctxBin)
    (o₀ o : Oracle) (g : Rng) (c₀ : Batch α) (init : List (Batch α)) (last : Batch α) :
    let bk := init.foldl (fun acc c => (acc.impPartialFit c o₀ g).1) (b.impFit c₀ o₀ g).1
    (bk.impPartialFit last o g).1.hist = (b.impFit (c₀ ++ init.flatten ++ last) o g).1.hist ∧
    (bk.impPartialFit last o g).1.labels = (b.impFit (c₀ ++ init.flatten ++ last) o g).1.labels ∧
    List.Forall₂ (fun x y => x.norm = y.norm) (bk.impPartialFit last o g).1.lps
      (b.impFit (c₀ ++ init.flatten ++ last) o g).1.lps := by
  intro bk
  obtain ⟨f1, f2, f3⟩ := clusters_fit_keeps b b n hnp (BSame.refl b) hb hflag c₀ o₀ g
  obtain ⟨s1, s2, s3⟩ := clusters_partialFits_keep b n hb hflag o₀ g init _ f3 f1
  rw [clusters_partialFit_is_fit bk n s2 (noTsBinz_of_bsame bk b s1 hb) last o g, s3, f2]
  refine (impFit_clusters_congr bk b (c₀ ++ init.flatten ++ last) o g s1 n s2 fun l hl => ?_).2
  obtain ⟨y, hy, c⟩ := forall₂_mem_left s1.lps l hl
  rw [c.kind]; exact hrs y hy

set_option linter.unusedVariables false in
/-- **C06 (Clusters, whole bandit).**  `fit` on a prefix followed by `partial_fit` on the rest (k-means giving the
    labels `o.labels` for the whole history) leaves the same history, the same labels and, cluster by cluster, the
    same policy state as one `fit` on everything — identical for every policy but Thompson Sampling, where the states
    agree up to the remembered last draw. -/
theorem clusters_incremental_eq_batch (b : Bandit α) (n : Nat) (hnp : b.np = .clusters n) (hb : NoTsBinz b)
    (hrs : ∀ l ∈ b.lps, l.kind ≠ .random) (hflag : ∀ l ∈ b.lps, l.ctxBin = (b.lps.headD b.lp).ctxBin)
    (c₀ c₁ : Batch α) (hne : c₀ ≠ []) (o₀ o : Oracle) (g : Rng) :
    ((b.impFit c₀ o₀ g).1.impPartialFit c₁ o g).1.hist = (b.impFit (c₀ ++ c₁) o g).1.hist ∧
    ((b.impFit c₀ o₀ g).1.impPartialFit c₁ o g).1.labels = (b.impFit (c₀ ++ c₁) o g).1.labels ∧
    List.Forall₂ (fun x y => x.norm = y.norm) ((b.impFit c₀ o₀ g).1.impPartialFit c₁ o g).1.lps
      (b.impFit (c₀ ++ c₁) o g).1.lps := by
  simpa using clusters_chunked_eq_batch b n hnp hb hrs hflag o₀ o g c₀ [] c₁

end Mab
