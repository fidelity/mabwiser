/-
  C20 — results are invariant to the order of training rows; rewards enter only through the
  documented statistics (shift / scale laws).
-/
import MabModel.Props.C01
open Py
set_option linter.unusedSectionVars false

namespace Mab
variable {α : Type} [DecidableEq α]

/-! ### row order

  `A = λI + Σ x xᵀ` and `Xᵀy = Σ y·x` are folds of an addition that commutes entry-wise, sums of rationals commute:
  every policy's per-arm task reads the arm's rows through order-independent statistics only (exact arithmetic;
  float rounding of the sums is outside the model). -/

theorem rowsOf_perm (b b' : Batch α) (a : α) (h : b.Perm b') : (rowsOf b a).Perm (rowsOf b' a) :=
  (h.filter _).map _

theorem rsum_perm (rs rs' : List (Rat × Vec)) (h : rs.Perm rs') : rsum rs = rsum rs' := by
  unfold rsum
  exact (h.map _).sum_eq

theorem batchArms_perm (b b' : Batch α) (h : b.Perm b') (a : α) : a ∈ batchArms b ↔ a ∈ batchArms b' := by
  simp only [batchArms]
  exact (h.map _).mem_iff

theorem zipWith_right_comm {γ : Type} (f : γ → γ → γ) (hf : ∀ a b c, f (f a b) c = f (f a c) b) :
    ∀ (m x y : List γ), List.zipWith f (List.zipWith f m x) y = List.zipWith f (List.zipWith f m y) x := by
  intro m
  induction m with
  | nil => intro x y; simp
  | cons a m ih =>
    intro x y
    cases x <;> cases y <;> simp [hf, ih]

theorem vadd_right_comm : ∀ (m x y : Vec), vadd (vadd m x) y = vadd (vadd m y) x :=
  zipWith_right_comm _ fun a b c => by ring

theorem madd_right_comm : ∀ (M X Y : Mat), madd (madd M X) Y = madd (madd M Y) X :=
  zipWith_right_comm _ vadd_right_comm

/-- the Gram matrix does not depend on the order of the rows -/
theorem addGram_perm (A : Mat) (xs ys : List Vec) (h : xs.Perm ys) : addGram A xs = addGram A ys := by
  unfold addGram
  exact h.foldl_eq' (fun x _ y _ M => madd_right_comm M (outer x x) (outer y y)) A

/-- `Xᵀy` does not depend on the order of the rows -/
theorem addXty_perm (v : Vec) (rs rs' : List (Rat × Vec)) (h : rs.Perm rs') : addXty v rs = addXty v rs' := by
  unfold addXty
  exact h.foldl_eq' (fun x _ y _ m => vadd_right_comm m (vsmul x.1 x.2) (vsmul y.1 y.2)) v

/-- every policy's `_fit_arm` sees the arm's rows only through order-independent statistics -/
theorem fitRec_perm_all (kind : Kind) (N : Nat) (rs rs' : List (Rat × Vec)) (h : rs.Perm rs') (r : ArmSt α) :
    fitRec kind N rs r = fitRec kind N rs' r := by
  rw [fitRec_eq, fitRec_eq]
  simp only [fitMean, fitExp, ifRows, rsum_perm rs rs' h, addXty_perm r.Xty rs rs' h,
    addGram_perm r.A (rs.map (·.2)) (rs'.map (·.2)) (h.map _), h.length_eq]

set_option linter.unusedVariables false in
/-- a context-free policy's `_fit_arm` sees the arm's rows only through their sum and their number -/
theorem fitRec_perm (kind : Kind) (hlin : kind.isLinear = false) (N : Nat) (rs rs' : List (Rat × Vec))
    (h : rs.Perm rs') (r : ArmSt α) : fitRec kind N rs r = fitRec kind N rs' r :=
  fitRec_perm_all kind N rs rs' h r

/-- no well-formedness, no condition on the binarizer: the two calls do the same writes in the same order -/
theorem train_perm (s : LP α) (B B' : Batch α) (p : Bool) (h : B.Perm B') : s.train B p = s.train B' p :=
  train_congr s B B' p (fun a => funext (fitRec_perm_all _ _ _ _ (rowsOf_perm B B' a h))) (batchArms_perm B B' h)

theorem binarize_perm (s : LP α) (b b' : Batch α) (h : b.Perm b') : (s.binarize b).Perm (s.binarize b') := by
  unfold LP.binarize
  split
  · exact h.map _
  · exact h

theorem nfFor_binarize (s : LP α) (b : Batch α) (w : Option Nat) : s.nfFor (s.binarize b) w = s.nfFor b w := by
  have : batchWidth (s.binarize b) = batchWidth b := by
    unfold LP.binarize
    split
    · cases b <;> rfl
    · rfl
  unfold LP.nfFor; rw [this]

/-- row order, in any state and with or without a binarizer -/
theorem fit_perm_any (s : LP α) (b b' : Batch α) (w : Option Nat) (h : b.Perm b') (hnf : s.nfFor b w = s.nfFor b' w) :
    s.fit b w = s.fit b' w := by
  by_cases hk : s.kind = .random
  · rw [fit_random s b w hk, fit_random s b' w hk]
  · have hp := binarize_perm s b b' h
    have hr : s.resetFor (s.binarize b) w = s.resetFor (s.binarize b') w := by
      simp only [LP.resetFor, nfFor_binarize, hnf, hp.length_eq]
    rw [fit_eq_train s b w hk, fit_eq_train s b' w hk, hr]
    exact train_perm _ _ _ false hp

theorem partialFit_perm_any (s : LP α) (b b' : Batch α) (h : b.Perm b') : s.partialFit b = s.partialFit b' := by
  by_cases hk : s.kind = .random
  · rw [partialFit_random s b hk, partialFit_random s b' hk]
  · have hp := binarize_perm s b b' h
    rw [partialFit_eq_train s b hk, partialFit_eq_train s b' hk, hp.length_eq]
    exact train_perm _ _ _ true hp

set_option linter.unusedVariables false in
/-- **C20 (row order, every learning policy).**  `fit` on any permutation of a batch gives the same state, for the
    linear policies too (the width of the contexts being the same: it is when it is passed, or when the two batches
    start with rows of equal length). -/
theorem fit_perm_all (s : LP α) (b b' : Batch α) (w : Option Nat) (hwf : s.WF) (hbz : s.binz = none) (h : b.Perm b')
    (hnf : s.nfFor b w = s.nfFor b' w) : s.fit b w = s.fit b' w :=
  fit_perm_any s b b' w h hnf

set_option linter.unusedVariables false in
theorem partialFit_perm_all (s : LP α) (b b' : Batch α) (hwf : s.WF) (hbz : s.binz = none) (h : b.Perm b') :
    s.partialFit b = s.partialFit b' :=
  partialFit_perm_any s b b' h

/-- **C20 (row order).**  For every context-free policy in a well-formed state, `fit` on any
    permutation of a batch gives *the same state*: every sum, count, mean, expectation, counter and
    status flag (sums of rationals commute; float rounding is outside the model). -/
theorem fit_perm (s : LP α) (b b' : Batch α) (w : Option Nat) (hwf : s.WF) (hlin : s.kind.isLinear = false)
    (hbz : s.binz = none) (h : b.Perm b') : s.fit b w = s.fit b' w :=
  fit_perm_all s b b' w hwf hbz h (by rw [nfFor_of_not_linear s b w hlin, nfFor_of_not_linear s b' w hlin])

set_option linter.unusedVariables false in
theorem partialFit_perm (s : LP α) (b b' : Batch α) (hwf : s.WF) (hlin : s.kind.isLinear = false)
    (hbz : s.binz = none) (h : b.Perm b') : s.partialFit b = s.partialFit b' :=
  partialFit_perm_all s b b' hwf hbz h

/-! ### rewards enter through the statistics only: shift and scale -/

def shiftRows (c : Rat) (rs : List (Rat × Vec)) : List (Rat × Vec) := rs.map fun p => (p.1 + c, p.2)
def scaleRows (c : Rat) (rs : List (Rat × Vec)) : List (Rat × Vec) := rs.map fun p => (c * p.1, p.2)

theorem rsum_shift (c : Rat) (rs : List (Rat × Vec)) : rsum (shiftRows c rs) = rsum rs + (rs.length : Rat) * c := by
  simp only [rsum, shiftRows, List.map_map, Function.comp_def, List.sum_map_add, List.map_const', List.sum_replicate,
    nsmul_eq_mul]

theorem length_shiftRows (c : Rat) (rs : List (Rat × Vec)) : (shiftRows c rs).length = rs.length := List.length_map _

theorem lmean_shift (c : Rat) (rs : List (Rat × Vec)) (h : rs.length ≠ 0) : lmean (shiftRows c rs) = lmean rs + c := by
  rw [lmean, rsum_shift, length_shiftRows, add_div, mul_div_cancel_left₀ c (Nat.cast_ne_zero.mpr h)]
  rfl

/-- **C20 (shift, greedy).**  Adding `c` to every reward of an observed arm shifts its running mean by `c`. -/
theorem shift_greedy (eps c : Rat) (N : Nat) (rs : List (Rat × Vec)) (h : rs.length ≠ 0) :
    (fitRec (.greedy eps) N (shiftRows c rs) ({} : ArmSt α)).exp = .val (rsum rs / (rs.length : Rat) + c) ∧
    (fitRec (.greedy eps) N rs ({} : ArmSt α)).exp = .val (rsum rs / (rs.length : Rat)) := by
  refine ⟨(stat_greedy eps N _).2.2.trans ?_, (stat_greedy eps N rs).2.2.trans (if_neg h)⟩
  rw [length_shiftRows, if_neg h, lmean_shift c rs h]
  rfl

/-- **C20 (shift, UCB1).**  The mean shifts by `c`; the exploration bonus (which depends on counts only)
    is untouched. -/
theorem shift_ucb (alpha c : Rat) (N : Nat) (rs : List (Rat × Vec)) (h : rs.length ≠ 0) :
    (fitRec (.ucb alpha) N (shiftRows c rs) ({} : ArmSt α)).exp = .ucb (rsum rs / (rs.length : Rat) + c) alpha N rs.length ∧
    (fitRec (.ucb alpha) N rs ({} : ArmSt α)).exp = .ucb (rsum rs / (rs.length : Rat)) alpha N rs.length := by
  refine ⟨(stat_ucb alpha N _).2.trans ?_, (stat_ucb alpha N rs).2.trans (if_neg h)⟩
  rw [length_shiftRows, if_neg h, lmean_shift c rs h]
  rfl

theorem vadd_vsmul_scale (c a : Rat) (v x : Vec) : vadd (vsmul c v) (vsmul (c * a) x) = vsmul c (vadd v (vsmul a x)) := by
  simp only [vadd, vsmul, List.zipWith_map_left, List.zipWith_map_right, List.map_zipWith]
  congr; funext y z; ring

/-- whatever the lengths of the vectors -/
theorem addXty_scaleRows (c : Rat) (rs : List (Rat × Vec)) (v : Vec) :
    addXty (vsmul c v) (scaleRows c rs) = vsmul c (addXty v rs) := by
  induction rs generalizing v with
  | nil => rfl
  | cons p rs ih =>
    simp only [addXty, scaleRows, List.map_cons, List.foldl_cons] at ih ⊢
    rw [vadd_vsmul_scale, ih]

set_option linter.unusedVariables false in
/-- **C20 (scale, linear).**  `Xᵀy` is linear in the rewards: scaling every reward by `c` scales it by `c`
    (and leaves the Gram matrix untouched), hence the ridge coefficients and LinGreedy's `x·β` scale by `c`. -/
theorem addXty_scale (c : Rat) (rs : List (Rat × Vec)) (v : Vec) (d : Nat)
    (hv : v.length = d) (hrs : ∀ p ∈ rs, p.2.length = d) :
    addXty (vsmul c v) (scaleRows c rs) = vsmul c (addXty v rs) :=
  addXty_scaleRows c rs v

theorem gram_ignores_rewards (c : Rat) (A : Mat) (rs : List (Rat × Vec)) :
    addGram A ((scaleRows c rs).map (·.2)) = addGram A (rs.map (·.2)) := by
  simp [scaleRows, List.map_map, Function.comp_def]

/-! ### Softmax is shift invariant (real numbers) -/

theorem listMax_shift (c : Rat) : ∀ (ms : List Rat), ms ≠ [] → listMax (ms.map (· + c)) = listMax ms + c
  | [], h => absurd rfl h
  | x :: xs, _ => by
    show (xs.map (· + c)).foldl max (x + c) = xs.foldl max x + c
    rw [List.foldl_map]
    exact List.foldl_hom (· + c) fun a b => max_add_add_right a b c

/-- **C20 (shift, Softmax).**  The max-shifted soft-max share of an arm does not change when a constant
    is added to all means. -/
theorem shift_softmax_invariant (ms : List Rat) (tau m c : Rat) (h : ms ≠ []) :
    interp (.soft (ms.map (· + c)) tau (m + c)) = interp (.soft ms tau m) := by
  have hw : ∀ x, softW (ms.map (· + c)) tau (x + c) = softW ms tau x := by
    intro x
    simp only [softW, listMax_shift c ms h]
    congr 2
    ring
  simp only [interp, hw, List.map_map, Function.comp_def]

end Mab
