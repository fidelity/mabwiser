/-
  C03b — Radius / KNearest / LSHNearest at the facade.  `radius_exact` / `knn_valid` (C03) say which *stored* rows a
  query uses.  That the stored rows are the observations the caller delivered since the last `fit`, in order — no row of
  a rejected call, none lost or duplicated, none touched by `add_arm` / `remove_arm` — is proved here for every facade
  history of training-side calls on a bandit without binarizer (with one the stored rewards are the converted ones).
-/
import MabModel.Props.C01b
import MabModel.Lemmas.Store
open Py

namespace Mab
variable {α : Type} [DecidableEq α]

/-- what one accepted call does to the delivered rows -/
def Bandit.deliverOne (b : Bandit α) (cur : Batch α) : Op α → Batch α
  | .fit a => a.toBatch
  | .partialFit a => if b.isFit then cur ++ a.toBatch else a.toBatch
  | _ => cur

/-- the rows the caller has delivered through accepted calls since the last `fit` -/
def Bandit.delivered (le : Expect → Expect → Bool) (b : Bandit α) (cur : Batch α) : History α → Batch α
  | [] => cur
  | (op, o, g) :: t =>
    let cur' :=
      if (b.step le op o g).2.1.err.isSome then cur else b.deliverOne cur op
    Bandit.delivered le (b.step le op o g).1 cur' t

set_option linter.unusedVariables false in
theorem step_hist (le : Expect → Expect → Bool) (b : Bandit α) (op : Op α) (o : Oracle) (g : Rng)
    (hi : BInv b) (hnp : b.np.isStored = true) (hbz : b.lp.binz = none) (ht : op.isTraining = true) :
    (b.step le op o g).1.lp.binz = none ∧
    (b.step le op o g).1.hist =
      (if (b.step le op o g).2.1.err.isSome then b.hist else b.deliverOne b.hist op) := by
  refine step_cases le b op o g (fun _ _ => ⟨hbz, rfl⟩) fun act hp => ?_
  simp only [perform_err, Option.isSome_none, Bool.false_eq_true, if_false, Bandit.deliverOne]
  cases hp with
  | fit a =>
    obtain ⟨h1, h2⟩ := impFit_stored b a.toBatch o g hnp hbz
    exact ⟨h1 ▸ hbz, h2⟩
  | firstFit a hf =>
    obtain ⟨h1, h2⟩ := impFit_stored b a.toBatch o g hnp hbz
    simp only [hf, Bool.false_eq_true, if_false]
    exact ⟨h1 ▸ hbz, h2⟩
  | partialFit a hf =>
    obtain ⟨h1, h2⟩ := impPartialFit_stored b a.toBatch o g hnp hbz
    simp only [hf, if_true]
    exact ⟨h1 ▸ hbz, h2⟩
  | addArm a bz c hm =>
    cases bz with
    | some f => cases ht
    | none =>
      obtain ⟨h1, h2⟩ := impAddArm_stored b a hnp
      exact ⟨h1 ▸ (addArm_binz_none b.lp a).trans hbz, h2⟩
  | removeArm a hm =>
    obtain ⟨h1, h2⟩ := impRemoveArm_stored b a hnp
    exact ⟨h1 ▸ (removeArm_binz b.lp a).trans hbz, h2⟩
  | predict a | predictExp a | warmStart w => cases ht

/-- **C03 at the facade.**  After any facade history of training-side calls on a Radius / KNearest /
    LSHNearest bandit (no binarizer) the stored history is exactly what the accepted calls delivered since the last `fit`. -/
theorem runHist_hist (le : Expect → Expect → Bool) (h : History α) : ∀ b : Bandit α, BInv b →
    b.np.isStored = true → b.lp.binz = none → (∀ c ∈ h, c.1.isTraining = true) →
    (b.runHist le h).hist = b.delivered le b.hist h := by
  induction h with
  | nil => intro b _ _ _ _; rfl
  | cons c t ih =>
    intro b hi hnp hbz ht
    obtain ⟨op, o, g⟩ := c
    obtain ⟨hop, ht⟩ := List.forall_mem_cons.mp ht
    obtain ⟨hbz', hh⟩ := step_hist le b op o g hi hnp hbz hop
    simp only [Bandit.runHist, Bandit.delivered]
    rw [ih _ (binv_step le b op o g hi) ((step_np le b op o g).symm ▸ hnp) hbz' ht, hh]

/-! non-vacuity: fit two rows, a wrong-width `partial_fit` (rejected), `add_arm`, a `partial_fit` of one row:
    three rows are stored, those of the two accepted training calls -/
def c03bHist : History Nat :=
  [(.fit { decisions := [0, 1], rewards := [some 1, some 0], contexts := some [[0, 0], [1, 1]] }, {}, { tape := [] }),
   (.partialFit { decisions := [0], rewards := [some 1], contexts := some [[0, 0, 0]] }, {}, { tape := [] }),
   (.addArm (.ok 2) none, {}, { tape := [] }),
   (.partialFit { decisions := [2], rewards := [some 1], contexts := some [[2, 2]] }, {}, { tape := [] })]

example : (((Bandit.init [0, 1] (.greedy 0) (.radius 1 .cityblock none) none false).runHist (fun _ _ => true) c03bHist).hist.map
    fun r => (r.arm, r.ctx)) = [(0, [0, 0]), (1, [1, 1]), (2, [2, 2])] := by decide +kernel

end Mab
