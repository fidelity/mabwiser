/-
  C17 — a rejected call changes nothing.
  `Bandit.step` returns the state also when the call is rejected; every rejection class of the
  facade (wrong container types, length mismatches, non-finite or non-binary rewards, contexts
  missing or superfluous, duplicate / unknown / None / NaN / Inf arm, binarizer on a non-Thompson
  bandit, non-callable binarizer, bad warm-start arguments, empty list of closest distances,
  predict before fit) and the shape errors raised from inside training (feature-count mismatch in
  `partial_fit`, fewer rows than clusters) leaves the whole bandit state — arms, learned state,
  stored history, tables, trees — and the random streams untouched.
-/
import MabModel.Lemmas.Step
open Py

namespace Mab
variable {α : Type} [DecidableEq α]

/-- **C17.** For every state, every operation with every argument, every oracle and tape: if the
    call is rejected, the bandit and its random streams are exactly what they were. -/
theorem rejected_noop (le : Expect → Expect → Bool) (b : Bandit α) (op : Op α) (o : Oracle) (g : Rng)
    (h : (b.step le op o g).2.1.err ≠ none) :
    (b.step le op o g).1 = b ∧ (b.step le op o g).2.2 = g := by
  revert h
  exact step_cases le b op o g (fun _ _ _ => ⟨rfl, rfl⟩) fun act _ h => absurd (perform_err le b o g act) h

theorem train_rejected_noop (b : Bandit α) (a : TrainArgs α) (p : Bool) (o : Oracle) (g : Rng)
    (h : (b.train a p o g).2.1.err ≠ none) : (b.train a p o g).1 = b ∧ (b.train a p o g).2.2 = g := by
  cases p
  · exact rejected_noop (fun _ _ => true) b (.fit a) o g h
  · exact rejected_noop (fun _ _ => true) b (.partialFit a) o g h

theorem query_rejected_noop (le : Expect → Expect → Bool) (b : Bandit α) (a : PredArgs) (p : Bool)
    (o : Oracle) (g : Rng) (h : (b.query le a p o g).2.1.err ≠ none) :
    (b.query le a p o g).1 = b ∧ (b.query le a p o g).2.2 = g := by
  cases p
  · exact rejected_noop le b (.predictExp a) o g h
  · exact rejected_noop le b (.predict a) o g h

/-- consequently every continuation behaves as if the rejected call had never been made -/
theorem rejected_then_continue (le : Expect → Expect → Bool) (b : Bandit α) (bad : Op α) (o : Oracle) (g : Rng)
    (h : (b.step le bad o g).2.1.err ≠ none) (next : Op α) (o' : Oracle) :
    (b.step le bad o g).1.step le next o' (b.step le bad o g).2.2 = b.step le next o' g := by
  obtain ⟨h1, h2⟩ := rejected_noop le b bad o g h
  rw [h1, h2]

/-- a fitted Radius bandit on which the examples below show a rejected call for three of the five error
    classes (shape, type, value) -/
def c17Bandit : Bandit Nat :=
  ((Bandit.init [0, 1] (.greedy 0) (.radius 1 .cityblock none)).step (fun _ _ => true)
    (.fit { decisions := [0, 1], rewards := [some 1, some 0], contexts := some [[0, 0], [1, 1]] }) {} { tape := [] }).1

example : (c17Bandit.step (fun _ _ => true)
    (.partialFit { decisions := [0], rewards := [some 1], contexts := some [[0, 0, 0]] }) {} { tape := [] }).2.1.err = some .shape := by
  decide +kernel
example : (c17Bandit.step (fun _ _ => true)
    (.partialFit { decisions := [0], rewards := [none], contexts := some [[0, 0]] }) {} { tape := [] }).2.1.err = some .type := by
  decide +kernel
example : (c17Bandit.step (fun _ _ => true) (.addArm (.ok 1) none) {} { tape := [] }).2.1.err = some .value := by
  decide +kernel
example : (c17Bandit.step (fun _ _ => true) (.predict { contexts := none }) {} { tape := [] }).2.1.err = some .value := by
  decide +kernel

end Mab
