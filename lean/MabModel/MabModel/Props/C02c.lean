/-
  C02 (end to end) — histories, normal equations, certificate and closed form in one statement.
-/
import MabModel.Props.C02b
open Py

namespace Mab
open Matrix
variable {α : Type} [DecidableEq α]

/-- **C02 (end to end).**  Take any linear policy, any duplicate-free arm list, any finite history of
    fit / partial_fit / add_arm / remove_arm (any chunking, batches that omit the arm, arms added
    later).  For every current arm whose observation log since the last fit / add is non-empty and
    consists of `d`-feature rows, and whose fitted model passes the inverse certificate the driver
    checks on every run: the stored matrix is `XᵀX + λI` over exactly that log, the stored inverse is its
    inverse, and the coefficients are `(XᵀX + λI)⁻¹ Xᵀy` — the unique solution of the normal equations. -/
theorem linear_history_closed_form (kind : Kind) (hlin : kind.isLinear = true) (arms : List α) (k1 : Bool) (hn : arms.Nodup)
    (ops : List (LPOp α)) (a : α) (ha : a ∈ ((LP.init kind arms none k1).run ops).arms) (d : Nat)
    (hnf : ((LP.init kind arms none k1).run ops).numFeatures = some d)
    (hne : (((Spec.init arms).run ops).log a).length ≠ 0)
    (hw : ∀ row ∈ ((Spec.init arms).run ops).log a, row.2.length = d)
    (r : ArmSt α) (hr : ((LP.init kind arms none k1).run ops).st.get? a = some r)
    (hcert : isInverseCert r.A r.Ainv = true) :
    let log := ((Spec.init arms).run ops).log a
    let G : Matrix (Fin d) (Fin d) ℚ := kind.lam • (1 : Matrix (Fin d) (Fin d) ℚ) + (log.map fun p => vecMulVec (toV d p.2) (toV d p.2)).sum
    let b : Fin d → ℚ := (log.map fun p => p.1 • toV d p.2).sum
    toM d d r.A = G ∧ toM d d r.Ainv = G⁻¹ ∧ toV d r.beta = G⁻¹ *ᵥ b ∧ G *ᵥ toV d r.beta = b ∧
    ∀ w : Fin d → ℚ, G *ᵥ w = b → w = toV d r.beta := by
  intro log G b
  obtain ⟨r', hr', hA, hX, hAinv, hbeta, _, _⟩ := lin_statistics kind hlin arms k1 hn ops a ha
  obtain rfl : r' = r := Option.some.inj (hr'.symm.trans hr)
  rw [hnf, fitRec_fresh_linear kind hlin] at hA hX hAinv hbeta
  have := ridge_closed_form (α := α) kind hlin ((Spec.init arms).run ops).N d k1 log hne hw (by rw [← hA, ← hAinv]; exact hcert)
  simp only [] at this
  rwa [← hA, ← hAinv, ← hbeta] at this

end Mab
