/-
  C09 — predict returns the arm with the highest expectation.
-/
import MabModel.Lemmas.Predict
import MabModel.Lemmas.ListFold
open Py

namespace Mab
variable {α : Type} [DecidableEq α]

set_option linter.unusedSectionVars false in
/-- Running maximum over a list with "keep the earlier one on ties": the result dominates the
    start value and every element, and it is the *first* element that does so. -/
theorem foldMax_spec (R : Expect → Expect → Bool)
    (total : ∀ a b, R a b = true ∨ R b a = true) (trans : ∀ a b c, R a b = true → R b c = true → R a c = true)
    (t : List (α × Expect)) : ∀ (acc r : α × Expect), r = t.foldl (maxStep R) acc →
    R acc.2 r.2 = true ∧ (∀ q ∈ t, R q.2 r.2 = true) ∧
    (r = acc ∨ ∃ pre post, t = pre ++ r :: post ∧ R r.2 acc.2 = false ∧ ∀ q ∈ pre, R r.2 q.2 = false) := by
  intro acc r hr
  subst hr
  obtain ⟨i1, i2, i3⟩ := foldl_keep_first (fun a b : α × Expect => R a.2 b.2 = true)
    (fun a b => total a.2 b.2) (fun a b c => trans a.2 b.2 c.2) t acc
  refine ⟨i1, i2, i3.imp id ?_⟩
  rintro ⟨pre, post, e1, e2, e3⟩
  exact ⟨pre, post, e1, (Bool.not_eq_true _).mp e2, fun q hq => (Bool.not_eq_true _).mp (e3 q hq)⟩

/-- **C09 (arg-max).** `utils.argmax` / `np.argmax` as modelled: for every total, transitive
    comparison of expectations the returned arm attains the maximum, and no arm listed before it
    does — it is the first arm in dictionary (arm-list) order attaining the maximum. -/
theorem argmax_first (le : Expect → Expect → Bool)
    (total : ∀ a b, Expect.leWith le a b = true ∨ Expect.leWith le b a = true)
    (trans : ∀ a b c, Expect.leWith le a b = true → Expect.leWith le b c = true → Expect.leWith le a c = true)
    (d : ExpDict α) (hne : d ≠ []) :
    ∃ pre r post, d = pre ++ r :: post ∧ argmaxFirst le d = some r.1 ∧
      (∀ q ∈ d, Expect.leWith le q.2 r.2 = true) ∧ (∀ q ∈ pre, Expect.leWith le r.2 q.2 = false) := by
  cases d with
  | nil => exact absurd rfl hne
  | cons x t =>
    rw [argmaxFirst_eq_fold]
    obtain ⟨i1, i2, i3⟩ := foldMax_spec (Expect.leWith le) total trans t x _ rfl
    generalize List.foldl (maxStep (Expect.leWith le)) x t = r at *
    have hall : ∀ q ∈ x :: t, Expect.leWith le q.2 r.2 = true := List.forall_mem_cons.mpr ⟨i1, i2⟩
    rcases i3 with e | ⟨pre, post, e1, e2, e3⟩
    · subst e
      exact ⟨[], r, t, rfl, rfl, hall, fun _ h => absurd h List.not_mem_nil⟩
    · exact ⟨x :: pre, r, post, congrArg _ e1, rfl, hall, List.forall_mem_cons.mpr ⟨e2, e3⟩⟩

theorem argmaxFirst_mem (le : Expect → Expect → Bool) (d : ExpDict α) (a : α) (h : argmaxFirst le d = some a) :
    a ∈ d.keys := by
  cases d with
  | nil => simp [argmaxFirst] at h
  | cons x t =>
    rw [argmaxFirst_eq_fold, Option.some.injEq] at h
    subst h
    rcases foldl_keep_first_mem (fun a b : α × Expect => Expect.leWith le a.2 b.2 = true) t x with e | e
    · rw [show List.foldl (maxStep (Expect.leWith le)) x t = x from e]; exact List.mem_cons_self
    · exact Dict.mem_keys_of_mem _ _ _ (List.mem_cons_of_mem _ e)

/-- **C09.** In the model `predict` *is* the first arg-max of the expectations `predict_expectations`
    computes from the same state and the same draws (for every learning policy). -/
theorem predict_eq_argmax (le : Expect → Expect → Bool) (s : LP α) (m : Option Nat) (ctxs : List Vec)
    (own : Stream) (g : Rng) :
    (s.predict le m ctxs own g).2.1 = (s.predictExp m ctxs own g).2.1.map (fun d => (argmaxFirst le d, d)) ∧
    (s.predict le m ctxs own g).1 = (s.predictExp m ctxs own g).1 ∧
    (s.predict le m ctxs own g).2.2 = (s.predictExp m ctxs own g).2.2 := by
  simp [LP.predict]

/-- on exact (rational) expectations the comparison is `≤`, whatever oracle is supplied -/
theorem leWith_val (le : Expect → Expect → Bool) (x y : Rat) :
    Expect.leWith le (.val x) (.val y) = decide (x ≤ y) := rfl

example : argmaxFirst (α := Nat) (fun _ _ => true) [(3, .val 1), (1, .val 5), (7, .val 5), (2, .val 0)] = some 1 := by
  decide +kernel

end Mab
