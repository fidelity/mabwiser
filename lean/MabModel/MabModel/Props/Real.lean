/-
  Real-number meaning of the symbolic expectations (Mathlib reals: `exp` for the Softmax share, `sqrt` and `log`
  for the UCB1 and LinUCB bonuses), and the soft-max laws the properties use: the weights are positive and the
  shares are positive and sum to one.
-/
import MabModel.Core.LP
import Mathlib.Analysis.SpecialFunctions.Exp
import Mathlib.Analysis.SpecialFunctions.Log.Basic
import Mathlib.Analysis.SpecialFunctions.Sqrt
open Py

namespace Mab

def listMax : List Rat → Rat
  | [] => 0
  | x :: xs => xs.foldl max x

/-- un-normalised soft-max weight `exp((m - max ms)/τ)` -/
noncomputable def softW (ms : List Rat) (tau m : Rat) : ℝ := Real.exp ((((m - listMax ms) / tau : Rat) : ℝ))

/-- the real number a symbolic expectation stands for (`nan` is mapped to 0; it never meets arithmetic) -/
noncomputable def interp : Expect → ℝ
  | .val q => (q : ℝ)
  | .ucb mean alpha N n => (mean : ℝ) + (alpha : ℝ) * Real.sqrt (2 * Real.log (N : ℝ) / (n : ℝ))
  | .soft ms tau m => softW ms tau m / (ms.map (softW ms tau)).sum
  | .lin xb alpha q => (xb : ℝ) + (alpha : ℝ) * Real.sqrt (q : ℝ)
  | .nan => 0

theorem list_sum_map_div {K : Type} [DivisionRing K] (l : List K) (D : K) : (l.map (· / D)).sum = l.sum / D := by
  simp only [div_eq_mul_inv]
  rw [List.sum_map_mul_right, List.map_id']

theorem softW_pos (ms : List Rat) (tau m : Rat) : 0 < softW ms tau m := Real.exp_pos _

theorem softW_sum_pos (ms : List Rat) (tau : Rat) (h : ms ≠ []) : 0 < (ms.map (softW ms tau)).sum :=
  List.sum_pos _ (fun y hy => by obtain ⟨m, _, rfl⟩ := List.mem_map.mp hy; exact softW_pos _ _ _)
    (fun e => h (List.map_eq_nil_iff.mp e))

/-- **Softmax shares sum to one** (for every non-empty list of means and every temperature). -/
theorem softmax_sum_one (ms : List Rat) (tau : Rat) (h : ms ≠ []) :
    (ms.map fun m => interp (.soft ms tau m)).sum = 1 := by
  have hpos := softW_sum_pos ms tau h
  have : (ms.map fun m => interp (.soft ms tau m)) = (ms.map (softW ms tau)).map (· / (ms.map (softW ms tau)).sum) := by
    simp [interp, List.map_map, Function.comp_def]
  rw [this, list_sum_map_div]
  exact div_self (ne_of_gt hpos)

/-- every soft-max share is positive -/
theorem softmax_share_pos (ms : List Rat) (tau m : Rat) (h : ms ≠ []) : 0 < interp (.soft ms tau m) := by
  simp only [interp]
  exact div_pos (softW_pos _ _ _) (softW_sum_pos ms tau h)

end Mab
