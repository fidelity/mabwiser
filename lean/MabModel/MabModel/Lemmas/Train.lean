/-
  The operations of a learning policy, each reduced to what it does to the records and what it leaves alone.

  What a call leaves alone is `SameCfg` (a call that keeps the arms) or `SameOpts` (arms may come and go).  The three
  whole-policy passes that close a training call are maps over the records (`expOp_eq`, `normalize_eq`, `post_eq_mapKV`).
  `fit` and `partial_fit` convert the rewards, set the counters and then do the same thing, `LP.train`, which rewrites
  the records only and on a well-formed state is a single pass over them (`train_closed`).  The arm changes and whole
  histories (`LP.stepOp`, `LP.run`) keep the options.
-/
import MabModel.Lemmas.LPBasic
import MabModel.Lemmas.ListFold
import MabModel.Spec.Log
open Py
set_option linter.unusedSectionVars false

namespace Mab
variable {α : Type} [DecidableEq α]

/-! ### what a call leaves alone -/

/-- Same configuration; the contents of the records are not compared: the frame of every operation that keeps the
    arms. -/
structure SameCfg (s s' : LP α) : Prop where
  kind : s.kind = s'.kind
  arms : s.arms = s'.arms
  keys : s.st.keys = s'.st.keys
  binz : s.binz = s'.binz
  ctxBin : s.ctxBin = s'.ctxBin
  k1 : s.k1fixed = s'.k1fixed
  nf : s.kind.isLinear = false → s.numFeatures = s'.numFeatures

theorem SameCfg.refl (s : LP α) : SameCfg s s := ⟨rfl, rfl, rfl, rfl, rfl, rfl, fun _ => rfl⟩
theorem SameCfg.symm {s s' : LP α} (h : SameCfg s s') : SameCfg s' s :=
  ⟨h.kind.symm, h.arms.symm, h.keys.symm, h.binz.symm, h.ctxBin.symm, h.k1.symm, fun hl => (h.nf (h.kind ▸ hl)).symm⟩
theorem SameCfg.trans {a b c : LP α} (h1 : SameCfg a b) (h2 : SameCfg b c) : SameCfg a c :=
  ⟨h1.kind.trans h2.kind, h1.arms.trans h2.arms, h1.keys.trans h2.keys, h1.binz.trans h2.binz,
   h1.ctxBin.trans h2.ctxBin, h1.k1.trans h2.k1, fun hl => (h1.nf hl).trans (h2.nf (h1.kind ▸ hl))⟩

theorem SameCfg.wf {s s' : LP α} (h : SameCfg s s') (hw : s.WF) : s'.WF :=
  ⟨by rw [← h.keys, ← h.arms]; exact hw.keys, by rw [← h.arms]; exact hw.nodup⟩

theorem SameCfg.over {l l' : LP α} {arms : List α} (hc : SameCfg l l') (hl : l.WF ∧ l.arms = arms) :
    l'.WF ∧ l'.arms = arms :=
  ⟨hc.wf hl.1, hc.arms.symm.trans hl.2⟩

/-- the flag `is_contextual_binarized` is the one part of the configuration a neighbourhood policy sets on its copies -/
theorem SameCfg.ctxBin_congr {s s' : LP α} (h : SameCfg s s') {c c' : Bool} (hc : c = c') :
    SameCfg { s with ctxBin := c } { s' with ctxBin := c' } :=
  ⟨h.kind, h.arms, h.keys, h.binz, hc, h.k1, h.nf⟩

theorem sameCfg_st (s : LP α) {st' : Dict α (ArmSt α)} (h : st'.keys = s.st.keys) :
    SameCfg s { s with st := st' } := ⟨rfl, rfl, h.symm, rfl, rfl, rfl, fun _ => rfl⟩

/-- The options a policy was constructed with, which no training call and no arm change replaces (`add_arm` without a
    new binarizer): what is left of `SameCfg` when arms come and go.  Read from the later state `s'`, against `SameCfg`: its
    users rewrite a field of the state after a history into that of the state before. -/
structure SameOpts (s s' : LP α) : Prop where
  kind : s'.kind = s.kind
  binz : s'.binz = s.binz
  ctxBin : s'.ctxBin = s.ctxBin
  k1 : s'.k1fixed = s.k1fixed
  nf : s.kind.isLinear = false → s'.numFeatures = s.numFeatures

theorem SameOpts.refl (s : LP α) : SameOpts s s := ⟨rfl, rfl, rfl, rfl, fun _ => rfl⟩
theorem SameOpts.trans {a b c : LP α} (h1 : SameOpts a b) (h2 : SameOpts b c) : SameOpts a c :=
  ⟨h2.kind.trans h1.kind, h2.binz.trans h1.binz, h2.ctxBin.trans h1.ctxBin, h2.k1.trans h1.k1,
   fun hl => (h2.nf (h1.kind ▸ hl)).trans (h1.nf hl)⟩

theorem SameCfg.opts {s s' : LP α} (h : SameCfg s s') : SameOpts s s' :=
  ⟨h.kind.symm, h.binz.symm, h.ctxBin.symm, h.k1.symm, fun hl => (h.nf hl).symm⟩

/-! ### `_expectation_operation` and `_normalize_expectations` write records only -/

/-- `_expectation_operation` on one record, given the list of means -/
def expRec (kind : Kind) (M : List Rat) (r : ArmSt α) : ArmSt α :=
  match kind with
  | .softmax tau => { r with exp := .soft M tau r.mean }
  | _ => r

/-- `_normalize_expectations` on one record, given the sum of the raw means and the number of arms -/
def normRec (kind : Kind) (P : Rat) (len : Nat) (r : ArmSt α) : ArmSt α :=
  match kind with
  | .popularity => if P = 0 then { r with exp := .val (1 / (len : Rat)) } else { r with exp := .val (popMean r / P) }
  | _ => r

/-- The expectation each of the two passes leaves in a record, from the fields it reads: named so that `postRec_eq` can
    say what the final expectation is computed from (`rec_append_post` in C06 turns on that). -/
def expExp (kind : Kind) (M : List Rat) (e : Expect) (m : Rat) : Expect :=
  match kind with
  | .softmax tau => .soft M tau m
  | _ => e

def normExp (kind : Kind) (P : Rat) (len : Nat) (e : Expect) (sm : Rat) (c : Nat) : Expect :=
  match kind with
  | .popularity => if P = 0 then .val (1 / (len : Rat)) else .val ((if c ≠ 0 then sm / c else 0) / P)
  | _ => e

theorem expRec_eq (kind : Kind) (M : List Rat) (r : ArmSt α) :
    expRec kind M r = { r with exp := expExp kind M r.exp r.mean } := by
  unfold expRec expExp; split <;> rfl

theorem normRec_eq (kind : Kind) (P : Rat) (len : Nat) (r : ArmSt α) :
    normRec kind P len r = { r with exp := normExp kind P len r.exp r.sum r.cnt } := by
  unfold normRec normExp popMean; split
  · split <;> rfl
  · rfl

/-- the Softmax pass writes the expectation only -/
theorem expRec_view {β : Type} (pr : ArmSt α → β) (hpr : ∀ (r : ArmSt α) (e : Expect), pr { r with exp := e } = pr r)
    (kind : Kind) (M : List Rat) (r : ArmSt α) : pr (expRec kind M r) = pr r := by
  rw [expRec_eq]; exact hpr r _

theorem expRec_idem (kind : Kind) (M : List Rat) (r : ArmSt α) : expRec kind M (expRec kind M r) = expRec kind M r := by
  cases kind <;> rfl

theorem expOp_eq (s : LP α) : s.expOp = { s with st := s.st.mapKV fun _ r => expRec s.kind s.means r } := by
  unfold LP.expOp expRec
  split
  · next tau h => simp only [h]
  · simp only [Dict.mapKV_id]

theorem normalize_eq (s : LP α) :
    s.normalize = { s with st := s.st.mapKV fun _ r => normRec s.kind s.popTotal s.arms.length r } := by
  unfold LP.normalize normRec
  split
  · next h => simp only [h]; split <;> rfl
  · simp only [Dict.mapKV_id]

theorem expOp_get_view {β : Type} (s : LP α) (pr : ArmSt α → β) (hpr : ∀ r, pr (expRec s.kind s.means r) = pr r) (a : α) :
    (s.expOp.st.get? a).map pr = (s.st.get? a).map pr := by
  rw [expOp_eq]; simp only [Dict.get?_mapKV, Option.map_map, Function.comp_def, hpr]

theorem expOp_sameCfg (s : LP α) : SameCfg s s.expOp := by
  rw [expOp_eq]; exact sameCfg_st s (Dict.keys_mapKV ..)

theorem normalize_sameCfg (s : LP α) : SameCfg s s.normalize := by
  rw [normalize_eq]; exact sameCfg_st s (Dict.keys_mapKV ..)

theorem expOp_kind (s : LP α) : s.expOp.kind = s.kind := (expOp_sameCfg s).kind.symm

theorem means_expOp (s : LP α) : s.expOp.means = s.means := by
  rw [expOp_eq]
  exact Dict.vals_of_view (Dict.view_mapKV (·.mean) s.st _ fun _ _ => expRec_view (·.mean) (fun _ _ => rfl) ..)

theorem expOp_expOp (s : LP α) : s.expOp.expOp = s.expOp := by
  have h := expOp_eq s.expOp
  rw [means_expOp, expOp_kind] at h
  rw [h, expOp_eq s]
  simp only [Dict.mapKV_mapKV, expRec_idem]

/-! ### the three whole-policy passes as one pass over the records -/

/-- what `post` does to one record, given the globals it reads: the list of means `M` (Softmax), the
    sum of raw means `P` and the number of arms `len` (Popularity), and whether the arm occurs in the batch -/
def postRec (kind : Kind) (M : List Rat) (P : Rat) (len : Nat) (inBatch isPartial : Bool) (r : ArmSt α) : ArmSt α :=
  let r1 : ArmSt α := match kind with
    | .softmax tau => { r with exp := .soft M tau r.mean }
    | _ => r
  let r2 : ArmSt α :=
    if inBatch then (if isPartial then { r1 with trained := true } else { r1 with trained := true, warm := false, warmBy := none })
    else r1
  match kind with
  | .popularity => if P = 0 then { r2 with exp := .val (1 / (len : Rat)) } else { r2 with exp := .val (popMean r2 / P) }
  | _ => r2

theorem postRec_comp (kind : Kind) (M : List Rat) (P : Rat) (len : Nat) (i p : Bool) (r : ArmSt α) :
    postRec kind M P len i p r = normRec kind P len
      (if i then (if p then { expRec kind M r with trained := true }
                  else { expRec kind M r with trained := true, warm := false, warmBy := none })
       else expRec kind M r) := rfl

def postExp (kind : Kind) (M : List Rat) (P : Rat) (len : Nat) (e : Expect) (m sm : Rat) (c : Nat) : Expect :=
  normExp kind P len (expExp kind M e m) sm c

theorem setTrained_stage_eq (inBatch isPartial : Bool) (r : ArmSt α) :
    (if inBatch then (if isPartial then { r with trained := true } else { r with trained := true, warm := false, warmBy := none })
     else r) =
      { r with trained := inBatch || r.trained, warm := if inBatch && !isPartial then false else r.warm,
               warmBy := if inBatch && !isPartial then none else r.warmBy } := by
  cases inBatch <;> cases isPartial <;> rfl

theorem postRec_eq (kind : Kind) (M : List Rat) (P : Rat) (len : Nat) (inBatch isPartial : Bool) (r : ArmSt α) :
    postRec kind M P len inBatch isPartial r =
      { r with exp := postExp kind M P len r.exp r.mean r.sum r.cnt
               trained := inBatch || r.trained
               warm := if inBatch && !isPartial then false else r.warm
               warmBy := if inBatch && !isPartial then none else r.warmBy } := by
  rw [postRec_comp, setTrained_stage_eq, expRec_eq, normRec_eq]; rfl

theorem popTotal_mapKV (s : LP α) (f : α → ArmSt α → ArmSt α) (h : ∀ a r, popMean (f a r) = popMean r) :
    ({ s with st := s.st.mapKV f } : LP α).popTotal = s.popTotal :=
  congrArg List.sum (Dict.vals_of_view (Dict.view_mapKV popMean s.st f h))

/-- `_normalize_expectations` reads the raw means after the other two passes, which leave sums and counts alone -/
theorem popTotal_expOp_setTrained (s : LP α) (b : Batch α) (p : Bool) :
    ((s.expOp).setTrained b p).popTotal = s.popTotal := by
  have h1 : s.expOp.popTotal = s.popTotal := by
    rw [expOp_eq]; exact popTotal_mapKV s _ fun _ _ => expRec_view popMean (fun _ _ => rfl) ..
  rw [← h1]
  refine popTotal_mapKV s.expOp _ fun a r => ?_
  split
  · split <;> rfl
  · rfl

theorem post_eq_mapKV (s : LP α) (b : Batch α) (p : Bool) :
    s.post b p = { s with st := s.st.mapKV (fun a r =>
      postRec s.kind s.means s.popTotal s.arms.length (decide (a ∈ s.arms ∧ a ∈ batchArms b)) p r) } := by
  rw [LP.post, normalize_eq, popTotal_expOp_setTrained, expOp_eq]
  simp only [LP.setTrained, Dict.mapKV_mapKV, postRec_comp, decide_eq_true_eq]

theorem post_sameCfg (s : LP α) (b : Batch α) (p : Bool) : SameCfg s (s.post b p) := by
  rw [post_eq_mapKV]; exact sameCfg_st s (Dict.keys_mapKV ..)

theorem post_wf (s : LP α) (b : Batch α) (p : Bool) (h : s.WF) : (s.post b p).WF := (post_sameCfg s b p).wf h

/-! ### before training: `_get_binary_rewards`, the counters, `num_features` -/

/-- `_get_binary_rewards` reads the options only -/
theorem SameOpts.binarize {s s' : LP α} (h : SameOpts s s') (b : Batch α) : s'.binarize b = s.binarize b := by
  unfold LP.binarize; rw [h.binz, h.ctxBin]

theorem binarize_none (s : LP α) (h : s.binz = none) (b : Batch α) : s.binarize b = b := by
  unfold LP.binarize; rw [h]

theorem binarize_append (s : LP α) (b₁ b₂ : Batch α) : s.binarize (b₁ ++ b₂) = s.binarize b₁ ++ s.binarize b₂ := by
  unfold LP.binarize
  split <;> simp

theorem nfFor_of_not_linear (s : LP α) (b : Batch α) (w : Option Nat) (hl : s.kind.isLinear = false) :
    s.nfFor b w = s.numFeatures := by
  unfold LP.nfFor; rw [hl]; rfl

theorem nfFor_append (s : LP α) (bb₁ bb₂ : Batch α) (w : Option Nat) (hw : s.kind.isLinear = true → w.isSome) :
    s.nfFor (bb₁ ++ bb₂) w = s.nfFor bb₁ w := by
  cases hl : s.kind.isLinear
  · rw [nfFor_of_not_linear s _ w hl, nfFor_of_not_linear s _ w hl]
  · obtain ⟨wv, rfl⟩ := Option.isSome_iff_exists.mp (hw hl)
    rfl

theorem resetFor_sameCfg (s : LP α) (B : Batch α) (w : Option Nat) : SameCfg s (s.resetFor B w) :=
  ⟨rfl, rfl, by simp [LP.resetFor], rfl, rfl, rfl, fun hl => (nfFor_of_not_linear s B w hl).symm⟩

theorem bumpTotal_sameCfg (s : LP α) (n : Nat) : SameCfg s (s.bumpTotal n) := ⟨rfl, rfl, rfl, rfl, rfl, rfl, fun _ => rfl⟩

/-! ### `fit` and `partial_fit` through `train` -/

/-- what `fit` and `partial_fit` share once the rewards are converted and the counters set: `_parallel_fit`,
    then `_expectation_operation`, `_set_arms_as_trained`, `_normalize_expectations` -/
def LP.train (s : LP α) (B : Batch α) (isPartial : Bool) : LP α := (s.parallelFit B).post B isPartial

theorem fit_eq_train (s : LP α) (b : Batch α) (w : Option Nat) (hk : s.kind ≠ .random) :
    s.fit b w = (s.resetFor (s.binarize b) w).train (s.binarize b) false := by
  unfold LP.fit LP.train; split
  · next h => exact absurd h hk
  · rfl

theorem partialFit_eq_train (s : LP α) (b : Batch α) (hk : s.kind ≠ .random) :
    s.partialFit b = (s.bumpTotal (s.binarize b).length).train (s.binarize b) true := by
  unfold LP.partialFit LP.train; split
  · next h => exact absurd h hk
  · rfl

theorem fit_random (s : LP α) (b : Batch α) (w : Option Nat) (hk : s.kind = .random) : s.fit b w = s := by
  unfold LP.fit; rw [hk]

theorem partialFit_random (s : LP α) (b : Batch α) (hk : s.kind = .random) : s.partialFit b = s := by
  unfold LP.partialFit; rw [hk]

theorem train_onlySt (s : LP α) (B : Batch α) (p : Bool) :
    ∃ st', s.train B p = { s with st := st' } ∧ st'.keys = s.st.keys := by
  unfold LP.train LP.parallelFit
  rw [post_eq_mapKV, parallelFitIn_eq]
  exact ⟨_, rfl, (Dict.keys_mapKV ..).trans (foldl_frame _ Dict.keys _ (fun d a _ => Dict.keys_modify ..) _)⟩

theorem train_sameCfg (s : LP α) (B : Batch α) (p : Bool) : SameCfg s (s.train B p) := by
  obtain ⟨st', e, h⟩ := train_onlySt s B p; rw [e]; exact sameCfg_st s h

theorem train_total (s : LP α) (B : Batch α) (p : Bool) : (s.train B p).total = s.total := by
  obtain ⟨st', e, _⟩ := train_onlySt s B p; rw [e]

theorem train_numFeatures (s : LP α) (B : Batch α) (p : Bool) : (s.train B p).numFeatures = s.numFeatures := by
  obtain ⟨st', e, _⟩ := train_onlySt s B p; rw [e]

theorem fit_sameCfg (s : LP α) (b : Batch α) (w : Option Nat) : SameCfg s (s.fit b w) := by
  by_cases hk : s.kind = .random
  · rw [fit_random s b w hk]; exact .refl s
  · rw [fit_eq_train s b w hk]; exact (resetFor_sameCfg ..).trans (train_sameCfg ..)

theorem partialFit_sameCfg (s : LP α) (b : Batch α) : SameCfg s (s.partialFit b) := by
  by_cases hk : s.kind = .random
  · rw [partialFit_random s b hk]; exact .refl s
  · rw [partialFit_eq_train s b hk]; exact (bumpTotal_sameCfg ..).trans (train_sameCfg ..)

theorem fit_kind (s : LP α) (b : Batch α) (w : Option Nat) : (s.fit b w).kind = s.kind := (fit_sameCfg s b w).kind.symm

/-- `train` on a well-formed state: every record goes through its arm's task and then through `postRec`,
    which reads the means and the raw-mean total *after* the tasks -/
theorem train_closed (s : LP α) (B : Batch α) (p : Bool) (h : s.WF) :
    s.train B p =
      { s with st := s.st.mapKV fun a r =>
                 postRec s.kind (s.st.map fun q => (fitRec s.kind s.total (rowsOf B q.1) q.2).mean)
                   ((s.st.map fun q => popMean (fitRec s.kind s.total (rowsOf B q.1) q.2)).sum) s.arms.length
                   (decide (a ∈ s.arms ∧ a ∈ batchArms B)) p (fitRec s.kind s.total (rowsOf B a) r) } := by
  unfold LP.train
  rw [parallelFit_closed s B h, post_eq_mapKV]
  simp only [LP.means, LP.popTotal, Dict.vals, Dict.mapKV, List.map_map, Function.comp_def]

/-- a batch is seen only through each arm's rows, as `fitRec` reads them, and through the set of arms that occur in
    it; no well-formedness is needed: the two runs do the same writes in the same order -/
theorem train_congr (s : LP α) (B B' : Batch α) (p : Bool)
    (hrec : ∀ a, fitRec (α := α) s.kind s.total (rowsOf B a) = fitRec s.kind s.total (rowsOf B' a))
    (harm : ∀ a, a ∈ batchArms B ↔ a ∈ batchArms B') : s.train B p = s.train B' p := by
  unfold LP.train LP.parallelFit
  rw [parallelFitIn_eq, parallelFitIn_eq, post_eq_mapKV, post_eq_mapKV]
  simp only [hrec, harm]

/-! ### `add_arm` and `remove_arm` -/

theorem insertArm_wf (s : LP α) (a : α) (bz : Option (α → Rat → Rat)) (h : s.WF) (ha : a ∉ s.arms) :
    (s.insertArm a bz).WF :=
  ⟨(Dict.keys_set_not_mem _ _ _ (h.keys ▸ ha)).trans (congrArg (· ++ [a]) h.keys),
   List.nodup_append_singleton s.arms a h.nodup ha⟩

theorem dropArm_wf (s : LP α) (a : α) (h : s.WF) : (s.dropArm a).WF :=
  ⟨(Dict.keys_pop ..).trans (congrArg _ h.keys), h.nodup.filter _⟩

theorem addArm_kind (s : LP α) (a : α) (bz : Option (α → Rat → Rat)) : (s.addArm a bz).kind = s.kind :=
  expOp_kind _

theorem insertArm_opts (s : LP α) (a : α) : SameOpts s (s.insertArm a none) :=
  ⟨rfl, by unfold LP.insertArm; cases s.kind <;> rfl, rfl, rfl, fun _ => rfl⟩

theorem addArm_opts (s : LP α) (a : α) : SameOpts s (s.addArm a none) :=
  (insertArm_opts s a).trans (expOp_sameCfg _).opts

theorem addArm_binz_none (s : LP α) (a : α) : (s.addArm a none).binz = s.binz := (addArm_opts s a).binz

theorem dropArm_sameCfg_removeArm (s : LP α) (a : α) : SameCfg (s.dropArm a) (s.removeArm a) :=
  (expOp_sameCfg (s.dropArm a)).trans (normalize_sameCfg _)

theorem dropArm_opts (s : LP α) (a : α) : SameOpts s (s.dropArm a) := ⟨rfl, rfl, rfl, rfl, fun _ => rfl⟩

theorem removeArm_opts (s : LP α) (a : α) : SameOpts s (s.removeArm a) :=
  (dropArm_opts s a).trans (dropArm_sameCfg_removeArm s a).opts

theorem removeArm_binz (s : LP α) (a : α) : (s.removeArm a).binz = s.binz := (removeArm_opts s a).binz

/-! ### along a history -/

theorem stepOp_opts (s : LP α) (op : LPOp α) : SameOpts s (s.stepOp op) := by
  cases op with
  | fit b w => exact (fit_sameCfg s b w).opts
  | partialFit b => exact (partialFit_sameCfg s b).opts
  | addArm a =>
    simp only [LP.stepOp]; split
    · exact .refl s
    · exact addArm_opts s a
  | removeArm a =>
    simp only [LP.stepOp]; split
    · exact removeArm_opts s a
    · exact .refl s

theorem run_opts (s : LP α) (ops : List (LPOp α)) : SameOpts s (s.run ops) :=
  List.foldlRecOn (motive := SameOpts s) ops LP.stepOp (.refl s) fun t h op _ => h.trans (stepOp_opts t op)

theorem stepOp_kind (s : LP α) (op : LPOp α) : (s.stepOp op).kind = s.kind := (stepOp_opts s op).kind

theorem run_kind (s : LP α) (ops : List (LPOp α)) : (s.run ops).kind = s.kind := (run_opts s ops).kind

end Mab
