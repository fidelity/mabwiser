/-
  Whole histories of facade calls: `History`, the bandit a history ends in (`Bandit.runHist`) and everything it lets
  the caller observe on the way (`Bandit.runOuts`).  Every property stated "for every history" is stated with these.
-/
import MabModel.Lemmas.Step
open Py

namespace Mab
variable {α : Type} [DecidableEq α]

/-- a history: operations with the oracle values and the recorded sampler answers of each call -/
abbrev History (α : Type) := List (Op α × Oracle × Rng)

def Bandit.runHist (le : Expect → Expect → Bool) (b : Bandit α) : List (Op α × Oracle × Rng) → Bandit α
  | [] => b
  | (op, o, g) :: t => Bandit.runHist le (b.step le op o g).1 t

/-- everything observable of running a history: per call the error / outputs and the sampler requests -/
def Bandit.runOuts (le : Expect → Expect → Bool) (b : Bandit α) : History α → List (StepOut α × Rng)
  | [] => []
  | (op, o, g) :: t => (b.step le op o g).2 :: Bandit.runOuts le (b.step le op o g).1 t

theorem runHist_invariant (le : Expect → Expect → Bool) (P : Bandit α → Prop)
    (hstep : ∀ b op o g, P b → P (b.step le op o g).1) :
    ∀ (h : History α) (b : Bandit α), P b → P (b.runHist le h)
  | [], _, hb => hb
  | (op, o, g) :: t, b, hb => runHist_invariant le P hstep t _ (hstep b op o g hb)

theorem runHist_np (le : Expect → Expect → Bool) (h : History α) : ∀ b : Bandit α, (b.runHist le h).np = b.np :=
  fun b => runHist_invariant le (·.np = b.np) (fun x op o g hx => (step_np le x op o g).trans hx) h b rfl

theorem runHist_append (le : Expect → Expect → Bool) (h₁ h₂ : History α) : ∀ b : Bandit α,
    b.runHist le (h₁ ++ h₂) = (b.runHist le h₁).runHist le h₂ := by
  induction h₁ with
  | nil => intro b; rfl
  | cons c t ih => intro b; obtain ⟨op, o, g⟩ := c; simp only [List.cons_append, Bandit.runHist]; exact ih _

theorem runOuts_append (le : Expect → Expect → Bool) (h₁ h₂ : History α) : ∀ b : Bandit α,
    b.runOuts le (h₁ ++ h₂) = b.runOuts le h₁ ++ (b.runHist le h₁).runOuts le h₂ := by
  induction h₁ with
  | nil => intro b; rfl
  | cons c t ih =>
    intro b; obtain ⟨op, o, g⟩ := c
    simp only [List.cons_append, Bandit.runOuts, Bandit.runHist, ih]

theorem runOuts_length (le : Expect → Expect → Bool) (h : History α) : ∀ b : Bandit α,
    (b.runOuts le h).length = h.length := by
  induction h with
  | nil => intro b; rfl
  | cons c t ih => intro b; obtain ⟨op, o, g⟩ := c; simp only [Bandit.runOuts, List.length_cons, ih]

end Mab
