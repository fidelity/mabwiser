/-
  One facade call, factored: `Bandit.check` is the validation half of `Bandit.step` (which error, or
  which action), `Bandit.perform` the writing half, and `step` is their composition (`step_eq`).  A theorem
  about one run of `step` goes through `step_cases`: a trivial rejected case plus one case per way a call is
  accepted (`Bandit.Performs`), one about `Bandit.query` through `query_cases`; a theorem about two runs shows that
  `check` decides alike and `perform` commutes.
  At the end, what each of the five writes leaves alone (`imp*_frame`, `impPredict_state`): no call changes the
  neighbourhood policy (`step_np`).
-/
import MabModel.Core.Facade
import MabModel.Lemmas.ListFold
open Py

namespace Mab
variable {α : Type} [DecidableEq α]

inductive Action (α : Type) where
  | fit (batch : Batch α)
  | partialFit (batch : Batch α)
  | addArm (a : α) (binz : Option (α → Rat → Rat))
  | removeArm (a : α)
  | warmStart (w : WarmArgs α)
  | query (isPredict : Bool) (a : PredArgs)

def Bandit.perform (le : Expect → Expect → Bool) (b : Bandit α) (o : Oracle) (g : Rng) :
    Action α → Bandit α × StepOut α × Rng
  | .fit batch => ({ (b.impFit batch o g).1 with isFit := true }, {}, (b.impFit batch o g).2)
  | .partialFit batch => ((b.impPartialFit batch o g).1, {}, (b.impPartialFit batch o g).2)
  | .addArm a binz => (b.impAddArm a binz, {}, g)
  | .removeArm a => (b.impRemoveArm a, {}, g)
  | .warmStart w =>
    -- `check` has checked that `LP.warmStart` succeeds; a neighbourhood policy ignores the call
    (match b.np with
     | .none => { b with lp := (b.lp.warmStart w.keys w.raw w.q).getD b.lp }
     | _ => b, {}, g)
  | .query p a =>
    ((b.impPredict le p (a.contexts.map (·.length)) (a.contexts.getD []) o g).1,
     { out := (b.impPredict le p (a.contexts.map (·.length)) (a.contexts.getD []) o g).2.1 },
     (b.impPredict le p (a.contexts.map (·.length)) (a.contexts.getD []) o g).2.2)

def Bandit.checkTrain (b : Bandit α) (a : TrainArgs α) (isPartial : Bool) : Except Err (Action α) :=
  match b.validateTrain a with
  | some e => .error e
  | none =>
    match b.trainShapeErr a.toBatch (isPartial && b.isFit) with
    | some e => .error e
    | none => .ok (if isPartial && b.isFit then .partialFit a.toBatch else .fit a.toBatch)

def Bandit.checkQuery (b : Bandit α) (a : PredArgs) (isPredict : Bool) : Except Err (Action α) :=
  if !b.isFit then .error .notFit
  else if b.isContextual ∧ a.contexts.isNone then .error .value
  else if a.contexts.isSome ∧ !a.ctxTypeOk then .error .type
  else .ok (.query isPredict a)

def Bandit.check (b : Bandit α) : Op α → Except Err (Action α)
  | .fit a => b.checkTrain a false
  | .partialFit a => b.checkTrain a true
  | .predict a => b.checkQuery a true
  | .predictExp a => b.checkQuery a false
  | .addArm arg binz callable =>
    if binz.isSome ∧ b.lp.kind ≠ .thompson then .error .value
    else if binz.isSome ∧ !callable then .error .type
    else
      match arg with
      | .ok a => if a ∈ b.arms then .error .value else .ok (.addArm a binz)
      | _ => .error .value
  | .removeArm arg =>
    match arg with
    | .ok a => if a ∈ b.arms then .ok (.removeArm a) else .error .value
    | _ => .error .value
  | .warmStart w =>
    if !w.typeOk then .error .type
    else if w.q < 0 ∨ 1 < w.q then .error .value
    else if ¬ (w.keys.all (· ∈ b.arms) ∧ b.arms.all (· ∈ w.keys)) then .error .value
    else
      match b.np with
      | .none =>
        if !w.featOk then .error .value
        else
          match b.lp.warmStart w.keys w.raw w.q with
          | some _ => .ok (.warmStart w)
          | none => .error .index
      | _ => .ok (.warmStart w)

def Bandit.outcome (le : Expect → Expect → Bool) (b : Bandit α) (o : Oracle) (g : Rng) :
    Except Err (Action α) → Bandit α × StepOut α × Rng
  | .error e => (b, { err := some e }, g)
  | .ok act => b.perform le o g act

theorem train_eq (le : Expect → Expect → Bool) (b : Bandit α) (a : TrainArgs α) (p : Bool) (o : Oracle)
    (g : Rng) : b.train a p o g = b.outcome le o g (b.checkTrain a p) := by
  unfold Bandit.train Bandit.checkTrain
  cases b.validateTrain a with
  | some e => rfl
  | none =>
    cases b.trainShapeErr a.toBatch (p && b.isFit) with
    | some e => rfl
    | none => cases p && b.isFit <;> rfl

theorem query_eq (le : Expect → Expect → Bool) (b : Bandit α) (a : PredArgs) (p : Bool) (o : Oracle)
    (g : Rng) : b.query le a p o g = b.outcome le o g (b.checkQuery a p) :=
  ite_hom Iff.rfl rfl (ite_hom Iff.rfl rfl (ite_hom Iff.rfl rfl rfl))

theorem step_eq (le : Expect → Expect → Bool) (b : Bandit α) (op : Op α) (o : Oracle) (g : Rng) :
    b.step le op o g = b.outcome le o g (b.check op) := by
  cases op with
  | fit a => exact train_eq le b a false o g
  | partialFit a => exact train_eq le b a true o g
  | predict a => exact query_eq le b a true o g
  | predictExp a => exact query_eq le b a false o g
  | addArm arg binz callable =>
    refine ite_hom Iff.rfl rfl (ite_hom Iff.rfl rfl ?_)
    cases arg with
    | ok a => exact ite_hom Iff.rfl rfl rfl
    | _ => rfl
  | removeArm arg =>
    cases arg with
    | ok a => exact ite_hom Iff.rfl rfl rfl
    | _ => rfl
  | warmStart w =>
    -- with the bandit written out `cases np` reaches the `np` inside the still folded `outcome` as well
    obtain ⟨_, lp, np⟩ := b
    refine ite_hom Iff.rfl rfl (ite_hom Iff.rfl rfl (ite_hom Iff.rfl rfl ?_))
    cases np with
    | none =>
      refine ite_hom Iff.rfl rfl ?_
      cases hw : lp.warmStart w.keys w.raw w.q with
      | none => rfl
      | some lp' => simp only [Bandit.outcome, Bandit.perform, hw, Option.getD_some]
    | _ => rfl

theorem perform_err (le : Expect → Expect → Bool) (b : Bandit α) (o : Oracle) (g : Rng) (act : Action α) :
    (b.perform le o g act).2.1.err = none := by
  cases act <;> rfl

omit [DecidableEq α] in
theorem ite_error_eq_ok {c : Prop} [Decidable c] {e : Err} {k : Except Err (Action α)} {act : Action α}
    (h : (if c then .error e else k) = .ok act) : ¬ c ∧ k = .ok act := by
  by_cases hc : c
  · rw [if_pos hc] at h; cases h
  · rw [if_neg hc] at h; exact ⟨hc, h⟩

theorem checkTrain_ok {b : Bandit α} {a : TrainArgs α} {p : Bool} {act : Action α}
    (h : b.checkTrain a p = .ok act) :
    act = if p && b.isFit then .partialFit a.toBatch else .fit a.toBatch := by
  unfold Bandit.checkTrain at h
  split at h
  · cases h
  · split at h <;> cases h
    rfl

omit [DecidableEq α] in
theorem checkQuery_ok {b : Bandit α} {a : PredArgs} {p : Bool} {act : Action α}
    (h : b.checkQuery a p = .ok act) : act = .query p a := by
  cases (ite_error_eq_ok (ite_error_eq_ok (ite_error_eq_ok h).2).2).2
  rfl

/-- Of what `check` has established the constructors carry only what later proofs use: the arm added is new, the arm
    removed is there, a `partial_fit` on an unfitted bandit is a `fit`. -/
inductive Bandit.Performs (b : Bandit α) : Op α → Action α → Prop
  | fit (a : TrainArgs α) : b.Performs (.fit a) (.fit a.toBatch)
  | firstFit (a : TrainArgs α) (h : b.isFit = false) : b.Performs (.partialFit a) (.fit a.toBatch)
  | partialFit (a : TrainArgs α) (h : b.isFit = true) : b.Performs (.partialFit a) (.partialFit a.toBatch)
  | predict (a : PredArgs) : b.Performs (.predict a) (.query true a)
  | predictExp (a : PredArgs) : b.Performs (.predictExp a) (.query false a)
  | addArm (a : α) (bz : Option (α → Rat → Rat)) (c : Bool) (h : a ∉ b.arms) : b.Performs (.addArm (.ok a) bz c) (.addArm a bz)
  | removeArm (a : α) (h : a ∈ b.arms) : b.Performs (.removeArm (.ok a)) (.removeArm a)
  | warmStart (w : WarmArgs α) : b.Performs (.warmStart w) (.warmStart w)

theorem check_ok {b : Bandit α} {op : Op α} {act : Action α} (h : b.check op = .ok act) :
    b.Performs op act := by
  cases op with
  | fit a => cases checkTrain_ok h; exact .fit a
  | partialFit a =>
    cases checkTrain_ok h
    cases hf : b.isFit
    · exact .firstFit a hf
    · exact .partialFit a hf
  | predict a => cases checkQuery_ok h; exact .predict a
  | predictExp a => cases checkQuery_ok h; exact .predictExp a
  | addArm arg bz c =>
    have h := (ite_error_eq_ok (ite_error_eq_ok h).2).2
    cases arg with
    | ok a => obtain ⟨hm, h⟩ := ite_error_eq_ok h; cases h; exact .addArm a bz c hm
    | _ => cases h
  | removeArm arg =>
    cases arg with
    | ok a =>
      by_cases hm : a ∈ b.arms
      · simp only [Bandit.check, if_pos hm] at h; cases h; exact .removeArm a hm
      · simp only [Bandit.check, if_neg hm] at h; cases h
    | _ => cases h
  | warmStart w =>
    have h := (ite_error_eq_ok (ite_error_eq_ok (ite_error_eq_ok h).2).2).2
    -- every accepting branch returns `.warmStart w`
    suffices act = .warmStart w from this ▸ .warmStart w
    split at h
    · have h := (ite_error_eq_ok h).2
      split at h <;> cases h
      rfl
    · cases h; rfl

@[elab_as_elim]
theorem step_cases {motive : Bandit α × StepOut α × Rng → Prop} (le : Expect → Expect → Bool) (b : Bandit α)
    (op : Op α) (o : Oracle) (g : Rng)
    (rejected : ∀ e, b.check op = .error e → motive (b, { err := some e }, g))
    (accepted : ∀ act, b.Performs op act → motive (b.perform le o g act)) : motive (b.step le op o g) := by
  rw [step_eq]
  cases hd : b.check op with
  | error e => exact rejected e hd
  | ok act => exact accepted act (check_ok hd)

@[elab_as_elim]
theorem query_cases {motive : Bandit α × StepOut α × Rng → Prop} (le : Expect → Expect → Bool) (b : Bandit α)
    (a : PredArgs) (p : Bool) (o : Oracle) (g : Rng) (rejected : ∀ e, motive (b, { err := some e }, g))
    (accepted : motive (b.perform le o g (.query p a))) : motive (b.query le a p o g) := by
  rw [query_eq]
  cases hd : b.checkQuery a p with
  | error e => exact rejected e
  | ok act => cases checkQuery_ok hd; exact accepted

theorem impFit_frame (b : Bandit α) (batch : Batch α) (o : Oracle) (g : Rng) :
    (b.impFit batch o g).1.np = b.np ∧ (b.impFit batch o g).1.arms = b.arms ∧
    (b.impFit batch o g).1.npExp = b.npExp := by
  unfold Bandit.impFit; cases b.np <;> exact ⟨rfl, rfl, rfl⟩

theorem impPartialFit_frame (b : Bandit α) (batch : Batch α) (o : Oracle) (g : Rng) :
    (b.impPartialFit batch o g).1.np = b.np ∧ (b.impPartialFit batch o g).1.arms = b.arms ∧
    (b.impPartialFit batch o g).1.npExp = b.npExp := by
  unfold Bandit.impPartialFit; cases b.np <;> exact ⟨rfl, rfl, rfl⟩

theorem impAddArm_frame (b : Bandit α) (a : α) (bz : Option (α → Rat → Rat)) :
    (b.impAddArm a bz).np = b.np ∧ (b.impAddArm a bz).arms = b.arms ++ [a] := by
  unfold Bandit.impAddArm; cases b.np <;> exact ⟨rfl, rfl⟩

theorem impRemoveArm_frame (b : Bandit α) (a : α) :
    (b.impRemoveArm a).np = b.np ∧ (b.impRemoveArm a).arms = b.arms.filter (· != a) := by
  unfold Bandit.impRemoveArm; cases b.np <;> exact ⟨rfl, rfl⟩

theorem impPredict_state (le : Expect → Expect → Bool) (b : Bandit α) (p : Bool) (m : Option Nat) (qs : List Vec)
    (o : Oracle) (g : Rng) :
    (b.impPredict le p m qs o g).1 =
      { b with lp := match b.np with | .none => (b.lp.predictExp m qs .main g).1 | _ => b.lp } := by
  obtain ⟨_, _, np⟩ := b
  cases np <;> cases p <;> rfl

theorem perform_np (le : Expect → Expect → Bool) (b : Bandit α) (o : Oracle) (g : Rng) (act : Action α) :
    (b.perform le o g act).1.np = b.np := by
  cases act with
  | fit batch => exact (impFit_frame b batch o g).1
  | partialFit batch => exact (impPartialFit_frame b batch o g).1
  | addArm a bz => exact (impAddArm_frame b a bz).1
  | removeArm a => exact (impRemoveArm_frame b a).1
  | warmStart w => simp only [Bandit.perform]; split <;> rfl
  | query p a => exact (congrArg Bandit.np (impPredict_state le b p _ _ o g) :)

theorem step_np (le : Expect → Expect → Bool) (b : Bandit α) (op : Op α) (o : Oracle) (g : Rng) :
    (b.step le op o g).1.np = b.np :=
  step_cases le b op o g (fun _ _ => rfl) fun act _ => perform_np le b o g act

end Mab
