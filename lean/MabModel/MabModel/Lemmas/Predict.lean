/-
  `predict_expectations`, policy by policy: what `LP.predictExp` computes under each kind, with the loops
  and the row layouts named, so that a proof about one policy does not unfold all of them and a fact about
  a layout is proved once.  First, facts about the wrapper `Out` (one result, or a list of them).
-/
import MabModel.Core.LP
open Py

namespace Mab
variable {α : Type} [DecidableEq α]

theorem Out.toList_map {β γ : Type} (h : β → γ) (o : Out β) : (o.map h).toList = o.toList.map h := by
  cases o <;> rfl

theorem Out.unwrap_map {γ δ : Type} [Inhabited γ] [Inhabited δ] (h : γ → δ) (hd : h default = default) (l : List γ) :
    Out.unwrap (l.map h) = (Out.unwrap l).map h := by
  unfold Out.unwrap
  simp only [List.length_map]
  split
  · rfl
  · cases l <;> simp only [Out.map, List.map_nil, List.map_cons, List.headD_nil, List.headD_cons, hd]

theorem Out.map_map {γ δ ε : Type} (h : γ → δ) (k : δ → ε) (o : Out γ) : (o.map h).map k = o.map fun x => k (h x) := by
  cases o <;> simp only [Out.map, List.map_map, Function.comp_def]

theorem Out.toList_headD_map {γ δ : Type} (o : Out γ) (h : γ → δ) (d : γ) :
    (o.map h).toList.headD (h d) = h (o.toList.headD d) := by
  rw [Out.toList_map]
  exact List.headD_map

omit [DecidableEq α] in
theorem Out.headD_map_argmax (le : Expect → Expect → Bool) (o : Out (ExpDict α)) :
    (o.map fun d => (argmaxFirst le d, d)).toList.headD (none, []) = (argmaxFirst le (o.toList.headD []), o.toList.headD []) :=
  o.toList_headD_map (fun d => (argmaxFirst le d, d)) []

theorem Out.unwrap_toList_mem {β : Type} [Inhabited β] (l : List β) (x : β) (hx : x ∈ (Out.unwrap l).toList) (hl : l ≠ []) : x ∈ l := by
  unfold Out.unwrap at hx
  split at hx
  · exact hx
  · cases l with
    | nil => exact absurd rfl hl
    | cons a t =>
      rw [List.mem_singleton.mp hx]
      exact List.mem_cons_self

theorem Out.unwrap_toList_ne {β : Type} [Inhabited β] (l : List β) : (Out.unwrap l).toList ≠ [] := by
  unfold Out.unwrap
  split
  · next h => exact fun e => Nat.not_lt_zero 1 (e ▸ h : ([] : List β).length > 1)
  · exact List.cons_ne_nil _ _

/-- the fold inside `argmaxFirst` -/
def maxStep (R : Expect → Expect → Bool) (acc p : α × Expect) : α × Expect :=
  if R p.2 acc.2 then acc else p

omit [DecidableEq α] in
theorem argmaxFirst_eq_fold (le : Expect → Expect → Bool) (x : α × Expect) (t : ExpDict α) :
    argmaxFirst le (x :: t) = some (t.foldl (maxStep (Expect.leWith le)) x).1 := by
  obtain ⟨k, v⟩ := x
  rfl

/-- `ds[0] if size == 1 else ds` -/
def oneOrMany (size : Nat) (ds : List (ExpDict α)) : Out (ExpDict α) :=
  if size = 1 then .one (ds.headD []) else .many ds

omit [DecidableEq α] in
theorem oneOrMany_map {β : Type} (h : ExpDict α → ExpDict β) (h0 : h [] = []) (size : Nat) (ds : List (ExpDict α)) :
    oneOrMany size (ds.map h) = (oneOrMany size ds).map h := by
  unfold oneOrMany
  split
  · cases ds <;> simp only [List.map_nil, List.map_cons, List.headD_nil, List.headD_cons, Out.map, h0]
  · rfl

def zipRows (keys : List α) (w size : Nat) (vals : List Rat) : List (ExpDict α) :=
  (chunk w size vals).map fun r => List.zip keys (r.map Expect.val)

/-- `_EpsilonGreedy` exploring: one uniform draw per arm, in arm order -/
def greedyExplore (arms : List α) (own : Stream) (g : Rng) : ExpDict α × Rng :=
  arms.foldl (fun (acc : ExpDict α × Rng) a =>
    (acc.1 ++ [(a, Expect.val ((acc.2.draw { stream := own, kind := .rand, size := 1 }).1.headD 0))],
     (acc.2.draw { stream := own, kind := .rand, size := 1 }).2)) ([], g)

/-- `_ThompsonSampling`: one `beta` request per arm, in key order, giving the arm's column of `size` draws -/
def LP.thompsonCols (s : LP α) (size : Nat) (own : Stream) (g : Rng) : List (α × List Rat) × Rng :=
  s.st.keys.foldl (fun (acc : List (α × List Rat) × Rng) a =>
    let r : ArmSt α := (s.st.get? a).getD {}
    let vg := acc.2.draw { stream := own, kind := .beta, params := [.val r.succ, .val r.fail], size := size }
    (acc.1 ++ [(a, vg.1)], vg.2)) ([], g)

def thompsonRows (arms : List α) (cols : List (α × List Rat)) (size : Nat) : List (ExpDict α) :=
  (List.range size).map fun i =>
    arms.map fun a => (a, Expect.val (((cols.find? (·.1 = a)).map (·.2)).getD [] |>.getD i 0))

/-- the exploration rate of `_LinGreedy` (the other linear policies never explore) -/
def LP.linEps (s : LP α) : Rat := match s.kind with | .linGreedy e _ => e | _ => 0

/-- `_vectorized_predict_context`: one column of expectations per arm over the rows `xs` that are not explored -/
def LP.linearCols (s : LP α) (xs : List Vec) (own : Stream) (g : Rng) : List (List Expect) × Rng :=
  s.arms.foldl (fun (acc : List (List Expect) × Rng) a =>
    let r : ArmSt α := (s.st.get? a).getD {}
    match s.kind with
    | .linUCB alpha _ =>
      (acc.1 ++ [xs.map fun x0 => Expect.lin (dot (scaleRow r.mu r.sc x0) r.beta) alpha
                    (dot (vecMul (scaleRow r.mu r.sc x0) r.Ainv) (scaleRow r.mu r.sc x0))], acc.2)
    | .linTS alpha _ =>
      let d := r.beta.length
      let strm := if r.rngPriv then Stream.copyOf own else own
      let (bv, g) := acc.2.draw { stream := strm, kind := .mvn,
                                  params := r.beta.map Expect.val ++ (msmul (alpha * alpha) r.Ainv).flatten.map Expect.val,
                                  size := xs.length * d }
      let B := chunk d xs.length bv
      (acc.1 ++ [(List.zip xs B).map fun p => Expect.val (dot (scaleRow r.mu r.sc p.1) p.2)], g)
    | _ => (acc.1 ++ [xs.map fun x0 => Expect.val (dot (scaleRow r.mu r.sc x0) r.beta)], acc.2)) ([], g)

variable (s : LP α) (m : Option Nat) (ctxs : List Vec) (own : Stream) (g : Rng)

theorem predictExp_ucb (a : Rat) (hk : s.kind = .ucb a) :
    s.predictExp m ctxs own g = (s, oneOrMany (m.getD 1) (List.replicate (m.getD 1) s.expDict), g) := by
  unfold LP.predictExp oneOrMany
  simp only [hk]
  split
  · next h => rw [h]; rfl
  · rfl

theorem predictExp_greedy (eps : Rat) (hk : s.kind = .greedy eps) :
    s.predictExp m ctxs own g =
      if m.getD 1 = 1 then
        if ratLt ((g.draw { stream := own, kind := .rand, size := 1 }).1.headD 0) eps then
          (s, .one (greedyExplore s.arms own (g.draw { stream := own, kind := .rand, size := 1 }).2).1,
            (greedyExplore s.arms own (g.draw { stream := own, kind := .rand, size := 1 }).2).2)
        else (s, .one s.expDict, (g.draw { stream := own, kind := .rand, size := 1 }).2)
      else
        (s, .many ((List.zip (g.draw { stream := own, kind := .rand, size := m.getD 1 }).1
            (chunk s.arms.length (m.getD 1) ((g.draw { stream := own, kind := .rand, size := m.getD 1 }).2.draw
              { stream := own, kind := .rand, size := m.getD 1 * s.arms.length }).1)).map fun pr =>
              if ratLt pr.1 eps then List.zip s.arms (pr.2.map Expect.val) else s.expDict),
          ((g.draw { stream := own, kind := .rand, size := m.getD 1 }).2.draw
              { stream := own, kind := .rand, size := m.getD 1 * s.arms.length }).2) := by
  unfold LP.predictExp
  simp only [hk]
  rfl

theorem predictExp_dirichlet (hk : (∃ t, s.kind = .softmax t) ∨ s.kind = .popularity) :
    s.predictExp m ctxs own g =
      (s, oneOrMany (m.getD 1) (zipRows s.st.keys s.st.length (m.getD 1)
          (g.draw { stream := own, kind := .dirichlet, params := s.st.vals.map (·.exp), size := m.getD 1 * s.st.length }).1),
        (g.draw { stream := own, kind := .dirichlet, params := s.st.vals.map (·.exp), size := m.getD 1 * s.st.length }).2) := by
  unfold LP.predictExp
  rcases hk with ⟨t, hk⟩ | hk <;> simp only [hk] <;> rfl

theorem predictExp_thompson (hk : s.kind = .thompson) :
    s.predictExp m ctxs own g =
      ({ s with st := s.st.mapKV fun a r => { r with exp :=
          (Dict.get? ((thompsonRows s.arms (s.thompsonCols (m.getD 1) own g).1 (m.getD 1)).getLastD []) a).getD r.exp } },
       oneOrMany (m.getD 1) (thompsonRows s.arms (s.thompsonCols (m.getD 1) own g).1 (m.getD 1)),
       (s.thompsonCols (m.getD 1) own g).2) := by
  unfold LP.predictExp
  simp only [hk]
  rfl

theorem predictExp_random (hk : s.kind = .random) :
    s.predictExp m ctxs own g =
      (s, oneOrMany (m.getD 1) (zipRows s.arms s.arms.length (m.getD 1)
          (g.draw { stream := own, kind := .rand, size := m.getD 1 * s.arms.length }).1),
        (g.draw { stream := own, kind := .rand, size := m.getD 1 * s.arms.length }).2) := by
  unfold LP.predictExp
  simp only [hk]
  rfl

theorem predictExp_linear (hlin : s.kind.isLinear = true) :
    s.predictExp m ctxs own g =
      let u := g.draw { stream := own, kind := .rand, size := ctxs.length }
      let mask := u.1.map fun x => ratLt x s.linEps
      let rv := u.2.draw { stream := own, kind := .rand, size := (mask.filter id).length * s.arms.length }
      let cols := s.linearCols ((List.zip mask ctxs).filterMap fun p => if p.1 then none else some p.2) own rv.2
      (s, Out.unwrap (assembleRows s.arms (chunk s.arms.length (mask.filter id).length rv.1) cols.1 mask 0 0), cols.2) := by
  unfold LP.predictExp LP.linearCols LP.linEps
  cases hk : s.kind with
  | linGreedy | linUCB | linTS => rfl
  | _ => rw [hk] at hlin; cases hlin

omit [DecidableEq α] in
/-- the shapes of computation `predict_expectations` has: six, for nine kinds -/
theorem LP.kind_cases {P : Prop} (greedy : ∀ e, s.kind = .greedy e → P) (ucb : ∀ a, s.kind = .ucb a → P)
    (dirichlet : (∃ t, s.kind = .softmax t) ∨ s.kind = .popularity → P) (thompson : s.kind = .thompson → P)
    (random : s.kind = .random → P) (linear : s.kind.isLinear = true → P) : P := by
  cases hk : s.kind with
  | greedy e => exact greedy e hk
  | ucb a => exact ucb a hk
  | softmax t => exact dirichlet (.inl ⟨t, hk⟩)
  | popularity => exact dirichlet (.inr hk)
  | thompson => exact thompson hk
  | random => exact random hk
  | linGreedy | linUCB | linTS => exact linear (by rw [hk]; rfl)

theorem predictExp_state (hk : s.kind ≠ .thompson) : (s.predictExp m ctxs own g).1 = s :=
  s.kind_cases
    (fun e h => by rw [predictExp_greedy s m ctxs own g e h]; simp only [apply_ite Prod.fst, ite_self])
    (fun a h => by rw [predictExp_ucb s m ctxs own g a h])
    (fun h => by rw [predictExp_dirichlet s m ctxs own g h])
    (fun h => absurd h hk)
    (fun h => by rw [predictExp_random s m ctxs own g h])
    (fun h => by rw [predictExp_linear s m ctxs own g h])

end Mab
