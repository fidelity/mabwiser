/-
  The workers of the neighbourhood policies (`Bandit.predictChunk`), shape by shape: a fold over the rows of a
  chunk that threads a worker state (the policy copy of Radius / KNearest / LSHNearest, the cluster policies of
  Clusters, nothing for TreeBandit) and the generator, and collects one output per row.  What the properties say
  about a chunk follows from what they say about a row through one lemma per shape: *one worker simulates
  another* (`chunkFold_sim`, `clusterFold_sim`, `tree_predictChunk_sim`).
-/
import MabModel.Core.Bandit
import MabModel.Lemmas.Predict
import MabModel.Lemmas.ListFold
open Py

namespace Mab
variable {α : Type} [DecidableEq α]

/-- what a worker returns for one row: expectations (`predict_expectations`) or arm and expectations (`predict`) -/
abbrev RowOut (α : Type) := ExpDict α ⊕ (Option α × ExpDict α)

/-- what `predict` returns for a row, given what `predict_expectations` returns for it -/
def toPred (le : Expect → Expect → Bool) : ExpDict α ⊕ (Option α × ExpDict α) → ExpDict α ⊕ (Option α × ExpDict α)
  | .inl d => .inr (argmaxFirst le d, d)
  | x => x

omit [DecidableEq α] in
theorem selectIdx_radius {b : Bandit α} {q : Vec} {ds : List Rat} {ks : List Nat} {r : Rat} {m : Metric}
    {pr : Option (List Rat)} (h : b.np = .radius r m pr) :
    b.selectIdx q ds ks =
      ((if m = .oracle then ds else b.hist.map fun h => distExact m h.ctx q).zipIdx.filterMap
        fun p => if p.1 ≤ radiusBound m r then some p.2 else none, false) := by
  simp only [Bandit.selectIdx, h]

/-! ### Radius, KNearest, LSHNearest: the worker keeps one copy of the policy -/

def Bandit.nhoodAns (b : Bandit α) (lp : LP α) (i : Nat) (q : Vec) (ds : List Rat) (ks : List Nat) (g : Rng) :
    LP α × Out (ExpDict α) × Rng :=
  (lp.fit ((b.selectIdx q ds ks).1.filterMap fun j => b.hist[j]?) (some q.length)).predictExp (some 1) [q] (.row i) g

section
variable {le : Expect → Expect → Bool} {b : Bandit α} {isPredict : Bool} {lp : LP α} {i : Nat} {q : Vec} {ds : List Rat}
  {ks : List Nat} {g : Rng}

/-- A row with a non-empty neighbourhood: `predict` differs from `predict_expectations` only in reporting the
    arg-max (C09). -/
theorem nhoodRow_of_pos (h : (b.selectIdx q ds ks).1.length > 0) :
    b.nhoodRow le isPredict lp i q ds ks g =
      ((b.nhoodAns lp i q ds ks g).1,
       (if isPredict then toPred le (.inl ((b.nhoodAns lp i q ds ks g).2.1.toList.headD []))
        else .inl ((b.nhoodAns lp i q ds ks g).2.1.toList.headD [])),
       (b.selectIdx q ds ks).2, (b.nhoodAns lp i q ds ks g).2.2) := by
  unfold Bandit.nhoodRow Bandit.nhoodAns
  simp only [h, if_true, LP.predict, Out.headD_map_argmax]
  cases isPredict <;> rfl

/-- the draw by which `predict` picks an arm for row `i` when no stored row is selected -/
def Bandit.emptyDraw (b : Bandit α) (i : Nat) (g : Rng) : List Rat × Rng :=
  g.draw { stream := .row i, kind := .choice, params := ((noNhoodProbs b.np).getD []).map Expect.val, size := 1 }

theorem nhoodRow_of_empty (h : ¬ (b.selectIdx q ds ks).1.length > 0) :
    b.nhoodRow le isPredict lp i q ds ks g =
      (lp, (if isPredict then .inr (b.arms[((b.emptyDraw i g).1.headD 0).floor.toNat]?, b.npExp) else .inl b.npExp),
       (b.selectIdx q ds ks).2, if isPredict then (b.emptyDraw i g).2 else g) := by
  unfold Bandit.nhoodRow Bandit.emptyDraw
  simp only [h, if_false]
  cases isPredict <;> rfl

end

/-- the fold of `_predict_contexts` over the rows of a chunk -/
def chunkFold (le : Expect → Expect → Bool) (b : Bandit α) (isPredict : Bool) (o : Oracle) (start : Nat)
    (qs : List (Vec × Nat)) (acc : LP α × List (ExpDict α ⊕ (Option α × ExpDict α)) × List Bool × Rng) :=
  qs.foldl (fun (acc : LP α × List (ExpDict α ⊕ (Option α × ExpDict α)) × List Bool × Rng) (p : Vec × Nat) =>
      let i := start + p.2
      let (lp, out, tie, g) := b.nhoodRow le isPredict acc.1 i p.1 (o.dists.getD i []) (o.ksets.getD i []) acc.2.2.2
      (lp, acc.2.1 ++ [out], acc.2.2.1 ++ [tie], g)) acc

/-- the neighbourhood policies that store the training rows themselves (`_Neighbors`: Radius, KNearest, LSHNearest) -/
def NPCfg.isStored : NPCfg → Bool
  | .radius .. => true
  | .knn .. => true
  | .lsh .. => true
  | _ => false

@[elab_as_elim]
theorem NPCfg.stored_cases {motive : NPCfg → Prop} {np : NPCfg} (h : np.isStored = true)
    (radius : ∀ r m p, motive (.radius r m p)) (knn : ∀ k m, motive (.knn k m)) (lsh : ∀ d t p, motive (.lsh d t p)) :
    motive np := by
  cases np with
  | radius r m p => exact radius r m p
  | knn k m => exact knn k m
  | lsh d t p => exact lsh d t p
  | _ => cases h

theorem predictChunk_of_stored {le : Expect → Expect → Bool} {b : Bandit α} {isPredict : Bool} {qs : List Vec} {start : Nat}
    {o : Oracle} {g : Rng} (h : b.np.isStored = true) :
    b.predictChunk le isPredict qs start o g =
      ((chunkFold le b isPredict o start qs.zipIdx (b.lp, [], [], g)).2.1,
       (chunkFold le b isPredict o start qs.zipIdx (b.lp, [], [], g)).2.2.1,
       (chunkFold le b isPredict o start qs.zipIdx (b.lp, [], [], g)).2.2.2) := by
  unfold Bandit.predictChunk
  exact NPCfg.stored_cases h (fun _ _ _ => rfl) (fun _ _ => rfl) (fun _ _ _ => rfl)

theorem predictChunk_eq_chunkFold_all (le : Expect → Expect → Bool) (b : Bandit α) (isPredict : Bool) (qs : List Vec)
    (start : Nat) (o : Oracle) (g : Rng)
    (hnp : (∃ r m pr, b.np = .radius r m pr) ∨ (∃ k m, b.np = .knn k m) ∨ (∃ d t pr, b.np = .lsh d t pr)) :
    b.predictChunk le isPredict qs start o g =
      ((chunkFold le b isPredict o start qs.zipIdx (b.lp, [], [], g)).2.1,
       (chunkFold le b isPredict o start qs.zipIdx (b.lp, [], [], g)).2.2.1,
       (chunkFold le b isPredict o start qs.zipIdx (b.lp, [], [], g)).2.2.2) :=
  predictChunk_of_stored (by rcases hnp with ⟨_, _, _, h⟩ | ⟨_, _, h⟩ | ⟨_, _, _, h⟩ <;> rw [h] <;> rfl)

theorem predictChunk_eq_chunkFold (le : Expect → Expect → Bool) (b : Bandit α) (isPredict : Bool) (qs : List Vec)
    (start : Nat) (o : Oracle) (g : Rng) (r : Rat) (m : Metric) (pr : Option (List Rat)) (hnp : b.np = .radius r m pr) :
    b.predictChunk le isPredict qs start o g =
      ((chunkFold le b isPredict o start qs.zipIdx (b.lp, [], [], g)).2.1,
       (chunkFold le b isPredict o start qs.zipIdx (b.lp, [], [], g)).2.2.1,
       (chunkFold le b isPredict o start qs.zipIdx (b.lp, [], [], g)).2.2.2) :=
  predictChunk_of_stored (hnp ▸ rfl)

theorem chunkFold_append (le : Expect → Expect → Bool) (b : Bandit α) (isPredict : Bool) (o : Oracle) (start : Nat)
    (qs₁ qs₂ : List (Vec × Nat)) (acc : LP α × List (RowOut α) × List Bool × Rng) :
    chunkFold le b isPredict o start (qs₁ ++ qs₂) acc =
      chunkFold le b isPredict o start qs₂ (chunkFold le b isPredict o start qs₁ acc) :=
  List.foldl_append

/-- **One worker simulates another.**  If, row by row, related policy copies stay related (`R`), the second
    worker's output is `ρ` of the first's and tie flag and generator agree, then the same holds of the whole
    chunk.  Row-locality (`R` = same configuration), `predict` vs `predict_expectations` (`ρ` = arg-max),
    reordering of the stored rows and relabelling of the arms (`β ≠ α`) are instances. -/
theorem chunkFold_sim {β : Type} [DecidableEq β] (R : LP α → LP β → Prop) (ρ : RowOut α → RowOut β)
    (le le' : Expect → Expect → Bool) (b : Bandit α) (b' : Bandit β) (isP isP' : Bool) (o : Oracle) (start : Nat)
    (qs : List (Vec × Nat))
    (hrow : ∀ p ∈ qs, ∀ lp lp' g, R lp lp' →
      let i := start + p.2
      let r := b.nhoodRow le isP lp i p.1 (o.dists.getD i []) (o.ksets.getD i []) g
      let r' := b'.nhoodRow le' isP' lp' i p.1 (o.dists.getD i []) (o.ksets.getD i []) g
      R r.1 r'.1 ∧ r'.2 = (ρ r.2.1, r.2.2))
    (lp : LP α) (lp' : LP β) (outs : List (RowOut α)) (ties : List Bool) (g : Rng) (h : R lp lp') :
    R (chunkFold le b isP o start qs (lp, outs, ties, g)).1
      (chunkFold le' b' isP' o start qs (lp', outs.map ρ, ties, g)).1 ∧
    (chunkFold le' b' isP' o start qs (lp', outs.map ρ, ties, g)).2 =
      ((chunkFold le b isP o start qs (lp, outs, ties, g)).2.1.map ρ,
       (chunkFold le b isP o start qs (lp, outs, ties, g)).2.2) := by
  refine List.foldl_rel (r := fun (a : LP α × List (RowOut α) × List Bool × Rng)
      (a' : LP β × List (RowOut β) × List Bool × Rng) => R a.1 a'.1 ∧ a'.2 = (a.2.1.map ρ, a.2.2)) ⟨h, rfl⟩ ?_
  rintro p hp ⟨lp, outs, ties, g⟩ ⟨lp', _⟩ ⟨h1, rfl⟩
  obtain ⟨r1, r2⟩ := hrow p hp lp lp' g h1
  exact ⟨r1, by simp only [r2, List.map_append, List.map_cons, List.map_nil]⟩

/-! ### Clusters: the worker keeps the cluster policies -/

/-- the row generator is installed on the policy and on its per-arm models (`clusterFold` below has this body inline) -/
def clearPriv (x : LP α) : LP α := { x with st := x.st.mapKV fun _ r => { r with rngPriv := false } }

/-- the fold of `_Clusters._predict_contexts` over the rows of a chunk -/
def clusterFold (le : Expect → Expect → Bool) (isPredict : Bool) (o : Oracle) (start : Nat)
    (qs : List (Vec × Nat)) (acc : List (LP α) × List (ExpDict α ⊕ (Option α × ExpDict α)) × Rng) :=
  qs.foldl (fun (acc : List (LP α) × List (ExpDict α ⊕ (Option α × ExpDict α)) × Rng) (p : Vec × Nat) =>
      let i := start + p.2
      let c := o.cells.getD i 0
      let lp0 : LP α := acc.1.getD c default
      let lp : LP α := { lp0 with st := lp0.st.mapKV fun _ r => { r with rngPriv := false } }
      if isPredict then
        let (lp2, out, g) := lp.predict le (some 1) [p.1] (.row i) acc.2.2
        (acc.1.set c lp2, acc.2.1 ++ [.inr (out.toList.headD (none, []))], g)
      else
        let (lp2, out, g) := lp.predictExp (some 1) [p.1] (.row i) acc.2.2
        (acc.1.set c lp2, acc.2.1 ++ [.inl (out.toList.headD [])], g)) acc

theorem predictChunk_eq_clusterFold (le : Expect → Expect → Bool) (b : Bandit α) (isPredict : Bool) (qs : List Vec)
    (start : Nat) (o : Oracle) (g : Rng) (n : Nat) (hnp : b.np = .clusters n) :
    b.predictChunk le isPredict qs start o g =
      ((clusterFold le isPredict o start qs.zipIdx (b.lps, [], g)).2.1, [],
       (clusterFold le isPredict o start qs.zipIdx (b.lps, [], g)).2.2) := by
  simp only [Bandit.predictChunk, hnp, clusterFold]

theorem clusterFold_append (le : Expect → Expect → Bool) (isPredict : Bool) (o : Oracle) (start : Nat)
    (qs₁ qs₂ : List (Vec × Nat)) (acc : List (LP α) × List (RowOut α) × Rng) :
    clusterFold le isPredict o start (qs₁ ++ qs₂) acc =
      clusterFold le isPredict o start qs₂ (clusterFold le isPredict o start qs₁ acc) :=
  List.foldl_append

def clusterAns (o : Oracle) (start : Nat) (lps : List (LP α)) (p : Vec × Nat) (g : Rng) : LP α × Out (ExpDict α) × Rng :=
  (clearPriv (lps.getD (o.cells.getD (start + p.2) 0) default)).predictExp (some 1) [p.1] (.row (start + p.2)) g

def clusterRow (le : Expect → Expect → Bool) (isPredict : Bool) (o : Oracle) (start : Nat) (lps : List (LP α))
    (p : Vec × Nat) (g : Rng) : List (LP α) × RowOut α × Rng :=
  (lps.set (o.cells.getD (start + p.2) 0) (clusterAns o start lps p g).1,
   (if isPredict then toPred le (.inl ((clusterAns o start lps p g).2.1.toList.headD []))
    else .inl ((clusterAns o start lps p g).2.1.toList.headD [])),
   (clusterAns o start lps p g).2.2)

theorem clusterFold_eq (le : Expect → Expect → Bool) (isPredict : Bool) (o : Oracle) (start : Nat)
    (qs : List (Vec × Nat)) (acc : List (LP α) × List (RowOut α) × Rng) :
    clusterFold le isPredict o start qs acc = qs.foldl (fun acc p =>
      ((clusterRow le isPredict o start acc.1 p acc.2.2).1, acc.2.1 ++ [(clusterRow le isPredict o start acc.1 p acc.2.2).2.1],
       (clusterRow le isPredict o start acc.1 p acc.2.2).2.2)) acc := by
  unfold clusterFold
  congr 1
  funext acc p
  unfold clusterRow clusterAns clearPriv
  cases isPredict
  · rfl
  · simp only [if_true, LP.predict, Out.headD_map_argmax]
    rfl

theorem clusterFold_sim {β : Type} [DecidableEq β] (R : List (LP α) → List (LP β) → Prop) (ρ : RowOut α → RowOut β)
    (le le' : Expect → Expect → Bool) (isP isP' : Bool) (o : Oracle) (start : Nat) (qs : List (Vec × Nat))
    (hrow : ∀ p ∈ qs, ∀ (lps : List (LP α)) (lps' : List (LP β)) g, R lps lps' →
      R (clusterRow le isP o start lps p g).1 (clusterRow le' isP' o start lps' p g).1 ∧
      (clusterRow le' isP' o start lps' p g).2 =
        (ρ (clusterRow le isP o start lps p g).2.1, (clusterRow le isP o start lps p g).2.2))
    (lps : List (LP α)) (lps' : List (LP β)) (outs : List (RowOut α)) (g : Rng) (h : R lps lps') :
    R (clusterFold le isP o start qs (lps, outs, g)).1 (clusterFold le' isP' o start qs (lps', outs.map ρ, g)).1 ∧
    (clusterFold le' isP' o start qs (lps', outs.map ρ, g)).2 =
      ((clusterFold le isP o start qs (lps, outs, g)).2.1.map ρ, (clusterFold le isP o start qs (lps, outs, g)).2.2) := by
  rw [clusterFold_eq, clusterFold_eq]
  refine List.foldl_rel (r := fun (a : List (LP α) × List (RowOut α) × Rng) (a' : List (LP β) × List (RowOut β) × Rng) =>
    R a.1 a'.1 ∧ a'.2 = (a.2.1.map ρ, a.2.2)) ⟨h, rfl⟩ ?_
  rintro p hp ⟨lps, outs, g⟩ ⟨lps', _⟩ ⟨h1, rfl⟩
  obtain ⟨r1, r2⟩ := hrow p hp lps lps' g h1
  exact ⟨r1, by simp only [r2, List.map_append, List.map_cons, List.map_nil]⟩

/-! ### TreeBandit: the worker keeps nothing -/

/-- the per-arm fold of `_TreeBandit._predict_contexts` for one row -/
def treeRowFold (b : Bandit α) (qleaf : List Nat) (l : List (α × Nat)) (acc : ExpDict α × Rng) : ExpDict α × Rng :=
  l.foldl (fun (acc : ExpDict α × Rng) (p : α × Nat) =>
    let lr := b.leafRewards.getD p.1 []
    if lr.length = 0 then acc
    else
      let (e, g) := b.treeLeafExp p.1 (lr.getD (qleaf.getD p.2 0) []) acc.2
      (acc.1.set p.1 e, g)) acc

/-- the step of `treeRowFold`, named so that `foldl_keyed_at` can take it -/
def treeRowTask (b : Bandit α) (qleaf : List Nat) (acc : ExpDict α × Rng) (p : α × Nat) : ExpDict α × Rng :=
  let lr := b.leafRewards.getD p.1 []
  if lr.length = 0 then acc
  else
    let (e, g) := b.treeLeafExp p.1 (lr.getD (qleaf.getD p.2 0) []) acc.2
    (acc.1.set p.1 e, g)

theorem treeRowFold_eq (b : Bandit α) (qleaf : List Nat) (l : List (α × Nat)) (acc : ExpDict α × Rng) :
    treeRowFold b qleaf l acc = l.foldl (treeRowTask b qleaf) acc := rfl

theorem treeRowTask_get_ne (b : Bandit α) (qleaf : List Nat) (acc : ExpDict α × Rng) (p : α × Nat) (k : α) (hk : k ≠ p.1) :
    (treeRowTask b qleaf acc p).1.get? k = acc.1.get? k := by
  simp only [treeRowTask]
  split
  · rfl
  · exact Dict.get?_set_ne hk

/-- `treeRow` with its loop over the arms named -/
theorem treeRow_eq (le : Expect → Expect → Bool) (b : Bandit α) (isPredict : Bool) (qleaf : List Nat) (g : Rng) :
    b.treeRow le isPredict qleaf g =
      let (d, g) := treeRowFold b qleaf b.arms.zipIdx (b.npExp, g)
      if isPredict then
        match b.lp.kind with
        | .greedy eps =>
          let (u, g) := g.draw { stream := .main, kind := .rand, size := 1 }
          if ratLt (u.headD 0) eps then
            let (v, g) := g.draw { stream := .main, kind := .randint, size := 1 }
            (.inr (b.arms[(v.headD 0).floor.toNat]?, d), g)
          else (.inr (argmaxFirst le d, d), g)
        | _ => (.inr (argmaxFirst le d, d), g)
      else (.inl d, g) := rfl

/-- a tree worker keeps no state between rows: the simulation needs no relation on states -/
theorem tree_predictChunk_sim {β : Type} [DecidableEq β] (ρ : RowOut α → RowOut β)
    (le le' : Expect → Expect → Bool) (b : Bandit α) (b' : Bandit β) (hnp : b.np = .tree) (hnp' : b'.np = .tree)
    (isP isP' : Bool) (hrow : ∀ ql g, b'.treeRow le' isP' ql g = (ρ (b.treeRow le isP ql g).1, (b.treeRow le isP ql g).2))
    (qs : List Vec) (start : Nat) (o : Oracle) (g : Rng) :
    b'.predictChunk le' isP' qs start o g =
      ((b.predictChunk le isP qs start o g).1.map ρ, (b.predictChunk le isP qs start o g).2.1,
       (b.predictChunk le isP qs start o g).2.2) := by
  simp only [Bandit.predictChunk, hnp, hnp']
  have h := List.foldl_rel (l := qs.zipIdx)
    (r := fun (a : List (RowOut α) × Rng) (a' : List (RowOut β) × Rng) => a' = (a.1.map ρ, a.2))
    (f := fun acc p => ((acc.1 ++ [(b.treeRow le isP (o.qleaves.getD (start + p.2) []) acc.2).1],
      (b.treeRow le isP (o.qleaves.getD (start + p.2) []) acc.2).2)))
    (g := fun acc p => ((acc.1 ++ [(b'.treeRow le' isP' (o.qleaves.getD (start + p.2) []) acc.2).1],
      (b'.treeRow le' isP' (o.qleaves.getD (start + p.2) []) acc.2).2)))
    (a := ([], g)) (b := ([], g)) rfl
    (fun p _ a a' e => by subst e; simp only [hrow, List.map_append, List.map_cons, List.map_nil])
  rw [h]

theorem impPredict_of_np (le : Expect → Expect → Bool) (b : Bandit α) (hnp : b.np ≠ .none) (isPredict : Bool)
    (m : Option Nat) (qs : List Vec) (o : Oracle) (g : Rng) :
    b.impPredict le isPredict m qs o g =
      (b, { exps := Out.unwrap (splitOuts (b.predictChunk le isPredict qs 0 o
                (g.draw { stream := .main, kind := .randint, size := qs.length }).2).1).1,
            arms := Out.unwrap (splitOuts (b.predictChunk le isPredict qs 0 o
                (g.draw { stream := .main, kind := .randint, size := qs.length }).2).1).2,
            ties := (b.predictChunk le isPredict qs 0 o
                (g.draw { stream := .main, kind := .randint, size := qs.length }).2).2.1 },
       (b.predictChunk le isPredict qs 0 o (g.draw { stream := .main, kind := .randint, size := qs.length }).2).2.2) := by
  unfold Bandit.impPredict Bandit.parallelPredict
  cases hk : b.np with
  | none => exact absurd hk hnp
  | _ => rfl

end Mab
