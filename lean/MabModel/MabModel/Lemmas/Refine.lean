/-
  Refinement of the learning-policy model to the log specification (`Spec/Log.lean`).

  The learned part of a record (`ArmSt.strip`): the per-arm task commutes with stripping, the whole-policy passes
  are invisible under it.  `Ref s t` says that every current arm's learned part is the statistic of that arm's log;
  every operation preserves it (the training calls: of a policy without binarizer; for both it is enough that each
  arm's task computes the statistic of the arm's new log from the record training starts from, `ref_train`).
-/
import MabModel.Lemmas.Train
open Py
set_option linter.unusedSectionVars false

namespace Mab
variable {α : Type} [DecidableEq α]

/-- does a policy keep its expectation as a pure function of the arm's own statistics? -/
def Kind.localExp : Kind → Bool
  | .greedy _ | .ucb _ => true
  | _ => false

/-- the learned part of a record: status flags dropped, and the expectation dropped for the policies
    whose expectation is a draw (Thompson), a global normalisation (Softmax, Popularity) or unused -/
def ArmSt.strip (kind : Kind) (r : ArmSt α) : ArmSt α :=
  { r with trained := false, warm := false, warmBy := none,
           exp := if kind.localExp then r.exp else .val 0 }

theorem fitRec_strip (kind : Kind) (N : Nat) (rs : List (Rat × Vec)) (r : ArmSt α) :
    (fitRec kind N rs r).strip kind = (fitRec kind N rs (r.strip kind)).strip kind := by
  rw [fitRec_eq, fitRec_eq]
  unfold ArmSt.strip
  congr 1
  cases kind.localExp <;> rfl

theorem strip_strip (kind : Kind) (r : ArmSt α) : (r.strip kind).strip kind = r.strip kind := by
  unfold ArmSt.strip; cases kind.localExp <;> rfl

theorem resetRec_strip (kind : Kind) (nf : Option Nat) (k1 : Bool) (r : ArmSt α) :
    (resetRec kind nf k1 r).strip kind = (freshRec kind nf k1 : ArmSt α).strip kind := by
  unfold resetRec; split <;> rfl

theorem postRec_strip (kind : Kind) (M : List Rat) (P : Rat) (len : Nat) (i p : Bool) (r : ArmSt α) :
    (postRec kind M P len i p r).strip kind = r.strip kind := by
  rw [postRec_eq]
  unfold ArmSt.strip
  congr 1
  cases kind <;> rfl

theorem expRec_strip (kind : Kind) (M : List Rat) (r : ArmSt α) : (expRec kind M r).strip kind = r.strip kind := by
  cases kind <;> rfl

theorem normRec_strip (kind : Kind) (P : Rat) (len : Nat) (r : ArmSt α) : (normRec kind P len r).strip kind = r.strip kind := by
  unfold normRec; split
  · split <;> rfl
  · rfl

theorem train_get_strip (s : LP α) (B : Batch α) (p : Bool) (h : s.WF) (a : α) :
    ((s.train B p).st.get? a).map (·.strip s.kind) =
      (s.st.get? a).map fun r => (fitRec s.kind s.total (rowsOf B a) r).strip s.kind := by
  rw [train_closed s B p h]
  simp only [Dict.get?_mapKV, Option.map_map, Function.comp_def, postRec_strip]

/-- the statistic a policy of this kind holds for an arm whose log is `log`, `N` rows since fit
    (of `s` only the kind, `num_features` and the variant switch are read) -/
def statOf (s : LP α) (N : Nat) (log : List (Rat × Vec)) : ArmSt α :=
  fitRec s.kind N log (freshRec s.kind s.numFeatures s.k1fixed)

structure Ref (s : LP α) (t : Spec α) : Prop where
  wf : s.WF
  arms : s.arms = t.arms
  total : s.kind = .random ∨ s.total = t.N      -- `_Random.fit` returns at once: it never counts rows
  entry : ∀ a ∈ s.arms, (s.st.get? a).map (·.strip s.kind) = some ((statOf s t.N (t.log a)).strip s.kind)

theorem ref_init (kind : Kind) (arms : List α) (k1 : Bool) (h : arms.Nodup) :
    Ref (LP.init kind arms none k1) (Spec.init arms) := by
  refine ⟨⟨by simp [LP.init], h⟩, rfl, Or.inr rfl, ?_⟩
  intro a ha
  have ha' : a ∈ arms := ha
  simp only [LP.init, Spec.init, statOf, fitRec_nil_of_cnt, freshRec_cnt]
  rw [Dict.get?_ofFn _ _ _ ha']
  rfl

theorem statOf_random (s : LP α) (hk : s.kind = .random) (N : Nat) (log : List (Rat × Vec)) :
    statOf s N log = freshRec s.kind s.numFeatures s.k1fixed := by
  simp [statOf, hk, fitRec]

/-- `_Random` learns nothing: its state refines every log over the same arms -/
theorem ref_random (s : LP α) (t t' : Spec α) (hk : s.kind = .random) (ha : t'.arms = t.arms) (h : Ref s t) :
    Ref s t' :=
  ⟨h.wf, h.arms.trans ha.symm, Or.inl hk, fun a ha' => by
    rw [h.entry a ha', statOf_random s hk, statOf_random s hk]⟩

theorem Ref.get {s : LP α} {t : Spec α} (h : Ref s t) {a : α} (ha : a ∈ s.arms) :
    ∃ r, s.st.get? a = some r ∧ r.strip s.kind = (statOf s t.N (t.log a)).strip s.kind :=
  Option.map_eq_some_iff.mp (h.entry a ha)

theorem ref_train (x : LP α) (t : Spec α) (B : Batch α) (p : Bool) (hw : x.WF) (ha : x.arms = t.arms) (hN : x.total = t.N)
    (he : ∀ a ∈ x.arms, (x.st.get? a).map (fun r => (fitRec x.kind x.total (rowsOf B a) r).strip x.kind) =
      some ((statOf x t.N (t.log a)).strip x.kind)) :
    Ref (x.train B p) t := by
  have F := train_sameCfg x B p
  have hs : statOf (x.train B p) = statOf x := by obtain ⟨st', e, _⟩ := train_onlySt x B p; rw [e]; rfl
  refine ⟨F.wf hw, F.arms.symm.trans ha, Or.inr ((train_total ..).trans hN), fun a ha' => ?_⟩
  rw [hs, ← F.kind]
  exact (train_get_strip x B p hw a).trans (he a (F.arms ▸ ha'))

theorem ref_fit (s : LP α) (t : Spec α) (b : Batch α) (w : Option Nat) (hb : s.binz = none) (h : Ref s t) :
    Ref (s.fit b w) (t.step (.fit b w)) := by
  by_cases hk : s.kind = .random
  · rw [fit_random s b w hk]; exact ref_random s t _ hk rfl h
  · rw [fit_eq_train s b w hk, binarize_none s hb b]
    refine ref_train (s.resetFor b w) _ b false ((resetFor_sameCfg s b w).wf h.wf) h.arms rfl fun a ha => ?_
    obtain ⟨r, hr, _⟩ := h.get ha
    simp only [LP.resetFor, Dict.get?_mapKV, hr, Option.map_some, statOf, Spec.step]
    rw [fitRec_strip, resetRec_strip, ← fitRec_strip]

theorem ref_partialFit (s : LP α) (t : Spec α) (b : Batch α) (hb : s.binz = none) (h : Ref s t) :
    Ref (s.partialFit b) (t.step (.partialFit b)) := by
  by_cases hk : s.kind = .random
  · rw [partialFit_random s b hk]; exact ref_random s t _ hk rfl h
  · have htot : s.total = t.N := h.total.resolve_left hk
    rw [partialFit_eq_train s b hk, binarize_none s hb b]
    refine ref_train (s.bumpTotal b.length) _ b true ⟨h.wf.keys, h.wf.nodup⟩ h.arms (congrArg (· + b.length) htot)
      fun a ha => ?_
    obtain ⟨r, hr, he⟩ := h.get ha
    simp only [LP.bumpTotal, hr, Option.map_some, statOf, Spec.step, Option.some.injEq] at he ⊢
    rw [fitRec_strip, he, ← fitRec_strip, fitRec_append, htot]

theorem ref_mapKV (s : LP α) (t : Spec α) (h : Ref s t) (f : α → ArmSt α → ArmSt α)
    (hf : ∀ a r, (f a r).strip s.kind = r.strip s.kind) : Ref { s with st := s.st.mapKV f } t :=
  ⟨(sameCfg_st s (Dict.keys_mapKV ..)).wf h.wf, h.arms, h.total, fun x hx => by
    refine Eq.trans ?_ (h.entry x hx)
    simp only [Dict.get?_mapKV, Option.map_map, Function.comp_def, hf]⟩

theorem ref_expOp (s : LP α) (t : Spec α) (h : Ref s t) : Ref s.expOp t := by
  rw [expOp_eq]; exact ref_mapKV s t h _ fun _ _ => expRec_strip ..

theorem ref_normalize (s : LP α) (t : Spec α) (h : Ref s t) : Ref s.normalize t := by
  rw [normalize_eq]; exact ref_mapKV s t h _ fun _ _ => normRec_strip ..

theorem ref_insertArm (s : LP α) (t : Spec α) (a : α) (ha : a ∉ s.arms) (h : Ref s t) :
    Ref (s.insertArm a none) { t with arms := t.arms ++ [a], log := fun x => if x = a then [] else t.log x } := by
  refine ⟨insertArm_wf s a none h.wf ha, congrArg (· ++ [a]) h.arms, h.total, fun x hx => ?_⟩
  show ((s.st.set a (freshRec s.kind s.numFeatures s.k1fixed)).get? x).map (·.strip s.kind) =
    some ((fitRec s.kind t.N (if x = a then [] else t.log x) (freshRec s.kind s.numFeatures s.k1fixed)).strip s.kind)
  rw [Dict.get?_set]
  split
  · rw [fitRec_nil_of_cnt _ _ _ (freshRec_cnt ..)]; rfl
  · next hxa => exact h.entry x ((List.mem_append.mp hx).resolve_right fun e => hxa (List.mem_singleton.mp e))

theorem ref_dropArm (s : LP α) (t : Spec α) (a : α) (h : Ref s t) :
    Ref (s.dropArm a) { t with arms := t.arms.filter (· != a) } := by
  refine ⟨dropArm_wf s a h.wf, congrArg _ h.arms, h.total, fun x hx => ?_⟩
  obtain ⟨hx1, hx2⟩ := List.mem_filter.mp hx
  have hne : x ≠ a := by simpa using hx2
  show ((s.st.pop a).get? x).map (·.strip s.kind) = _
  rw [Dict.get?_pop_ne hne]
  exact h.entry x hx1

theorem ref_stepOp_addArm (s : LP α) (t : Spec α) (a : α) (h : Ref s t) :
    Ref (s.stepOp (.addArm a)) (t.step (.addArm a)) := by
  by_cases ha : a ∈ s.arms
  · have : a ∈ t.arms := h.arms ▸ ha
    simp only [LP.stepOp, Spec.step, ha, this, if_true]; exact h
  · have hat : a ∉ t.arms := h.arms ▸ ha
    simp only [LP.stepOp, Spec.step, ha, hat, if_false]
    exact ref_expOp _ _ (ref_insertArm s t a ha h)

theorem ref_stepOp_removeArm (s : LP α) (t : Spec α) (a : α) (h : Ref s t) :
    Ref (s.stepOp (.removeArm a)) (t.step (.removeArm a)) := by
  by_cases ha : a ∈ s.arms
  · have hat : a ∈ t.arms := h.arms ▸ ha
    simp only [LP.stepOp, Spec.step, ha, hat, if_true]
    exact ref_normalize _ _ (ref_expOp _ _ (ref_dropArm s t a h))
  · have hat : a ∉ t.arms := h.arms ▸ ha
    simp only [LP.stepOp, Spec.step, ha, hat, if_false]; exact h

theorem ref_step (s : LP α) (t : Spec α) (op : LPOp α) (hb : s.binz = none) (h : Ref s t) :
    Ref (s.stepOp op) (t.step op) := by
  cases op with
  | fit b w => exact ref_fit s t b w hb h
  | partialFit b => exact ref_partialFit s t b hb h
  | addArm a => exact ref_stepOp_addArm s t a h
  | removeArm a => exact ref_stepOp_removeArm s t a h

end Mab
