/-
  Training and arm changes under a neighbourhood policy.  The conversion of the rewards (`npBinarize`) is one equation:
  the policy comes back with its flag raised or as it was, the rows with their rewards converted or as they were, and
  which of the two is decided by kind and binarizer, not by the rows (`npBinarize_eq`).  The policies that store the
  history (`NPCfg.isStored`) then do the same thing to `lp` and `hist` in every call (`imp*_stored`).
-/
import MabModel.Core.Bandit
import MabModel.Lemmas.Train
import MabModel.Lemmas.Nhood
open Py

namespace Mab
variable {α : Type}

/-- `_binarize_ts_rewards` converts the rewards when the policy is Thompson Sampling with a binarizer. -/
def LP.npConverts (lp : LP α) : Bool :=
  match lp.kind, lp.binz with
  | .thompson, some _ => true
  | _, _ => false

/-- It converts with that binarizer, whatever `is_contextual_binarized` says. -/
def LP.npConv (lp : LP α) (a : α) (x : Rat) : Rat :=
  match lp.kind, lp.binz with
  | .thompson, some f => f a x
  | _, _ => x

theorem npBinarize_eq (lp : LP α) (b : Batch α) :
    npBinarize lp b =
      ({ lp with ctxBin := lp.npConverts || lp.ctxBin }, b.map fun r => { r with reward := lp.npConv r.arm r.reward }) := by
  unfold npBinarize LP.npConverts LP.npConv
  split
  · next hk hb => simp only [LP.binarize, hk, hb, Bool.true_or]
  · next h =>
    -- the two other matches have the same discriminants and go together
    split
    · next hk hb => exact absurd hb (h _ hk)
    · exact Prod.ext rfl (List.map_id' b).symm

theorem SameCfg.npConverts {s s' : LP α} (h : SameCfg s s') : s.npConverts = s'.npConverts := by
  unfold LP.npConverts; rw [h.kind, h.binz]

theorem SameCfg.npConv {s s' : LP α} (h : SameCfg s s') : s.npConv = s'.npConv := by
  unfold LP.npConv; rw [h.kind, h.binz]

theorem npBinarize_ctx (lp : LP α) (b : Batch α) : (npBinarize lp b).2.map (·.ctx) = b.map (·.ctx) := by
  rw [npBinarize_eq]; simp only [List.map_map, Function.comp_def]

theorem npBinarize_other (lp : LP α) (h : ¬ (lp.kind = .thompson ∧ lp.binz.isSome = true)) (b : Batch α) :
    npBinarize lp b = (lp, b) := by
  unfold npBinarize
  split
  · next hk hb => exact absurd ⟨hk, by rw [hb]; rfl⟩ h
  · rfl

theorem npBinarize_of_binz_none (lp : LP α) (h : lp.binz = none) (b : Batch α) : npBinarize lp b = (lp, b) :=
  npBinarize_other lp (fun c => by rw [h] at c; exact Bool.noConfusion c.2) b

variable [DecidableEq α] {b : Bandit α} {batch : Batch α} {o : Oracle} {g : Rng}

theorem impPartialFit_lsh {d t : Nat} {p : Option (List Rat)} (h : b.np = .lsh d t p) :
    b.impPartialFit batch o g =
      (lshFitOp { b with lp := (npBinarize b.lp batch).1, hist := b.hist ++ (npBinarize b.lp batch).2 }
        (batch.map (·.ctx)) b.hist.length, g) := by
  simp only [Bandit.impPartialFit, h, npBinarize_ctx]

/-! ### what a policy that stores the history does to `lp` and `hist` -/

omit [DecidableEq α] in
/-- the flag `add_arm` sets under a stored-history policy when a Thompson policy takes over a binarizer, as one field -/
theorem addArm_flag (lp : LP α) (bz : Option (α → Rat → Rat)) :
    (match lp.kind, bz with | .thompson, some _ => ({ lp with ctxBin := true } : LP α) | _, _ => lp) =
      { lp with ctxBin := (bz.isSome && decide (lp.kind = .thompson)) || lp.ctxBin } := by
  split
  · next hk => simp only [hk, Option.isSome_some, decide_true, Bool.and_self, Bool.true_or]
  · next bz _ _ hne =>
    have : (bz.isSome && decide (lp.kind = .thompson)) = false := by
      cases bz with
      | none => rfl
      | some f => exact Bool.and_eq_false_imp.mpr fun _ => decide_eq_false fun hk => hne f hk rfl
    rw [this]; rfl

theorem impFit_stored (b : Bandit α) (batch : Batch α) (o : Oracle) (g : Rng) (hnp : b.np.isStored = true)
    (hbz : b.lp.binz = none) : (b.impFit batch o g).1.lp = b.lp ∧ (b.impFit batch o g).1.hist = batch := by
  unfold Bandit.impFit
  rw [npBinarize_of_binz_none _ hbz]
  exact NPCfg.stored_cases hnp (fun _ _ _ => ⟨rfl, rfl⟩) (fun _ _ => ⟨rfl, rfl⟩) (fun _ _ _ => ⟨rfl, rfl⟩)

theorem impPartialFit_stored (b : Bandit α) (batch : Batch α) (o : Oracle) (g : Rng) (hnp : b.np.isStored = true)
    (hbz : b.lp.binz = none) :
    (b.impPartialFit batch o g).1.lp = b.lp ∧ (b.impPartialFit batch o g).1.hist = b.hist ++ batch := by
  unfold Bandit.impPartialFit
  rw [npBinarize_of_binz_none _ hbz]
  exact NPCfg.stored_cases hnp (fun _ _ _ => ⟨rfl, rfl⟩) (fun _ _ => ⟨rfl, rfl⟩) (fun _ _ _ => ⟨rfl, rfl⟩)

theorem impAddArm_stored (b : Bandit α) (a : α) (hnp : b.np.isStored = true) :
    (b.impAddArm a none).lp = b.lp.addArm a none ∧ (b.impAddArm a none).hist = b.hist := by
  unfold Bandit.impAddArm
  exact NPCfg.stored_cases hnp (fun _ _ _ => ⟨addArm_flag _ none, rfl⟩) (fun _ _ => ⟨addArm_flag _ none, rfl⟩)
    (fun _ _ _ => ⟨addArm_flag _ none, rfl⟩)

theorem impRemoveArm_stored (b : Bandit α) (a : α) (hnp : b.np.isStored = true) :
    (b.impRemoveArm a).lp = b.lp.removeArm a ∧ (b.impRemoveArm a).hist = b.hist := by
  unfold Bandit.impRemoveArm
  exact NPCfg.stored_cases hnp (fun _ _ _ => ⟨rfl, rfl⟩) (fun _ _ => ⟨rfl, rfl⟩) (fun _ _ _ => ⟨rfl, rfl⟩)

end Mab
