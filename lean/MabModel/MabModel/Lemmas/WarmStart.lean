/-
  Warm start (`_warm_start`, `_copy_arms`, `_get_cold_arm_to_warm_arm`) at the level of the learning policy.
  The copy and the status pass are folds of single-key `modify` steps: whatever one step leaves alone, the fold
  leaves alone.  The Softmax pass that follows the copy is idempotent and commutes with the status pass, which is
  why a second call changes nothing.
-/
import MabModel.Lemmas.Train
open Py

namespace Mab
variable {α : Type} [DecidableEq α]

omit [DecidableEq α] in
/-- `argminFirst` in the form `foldl_keep_first` wants: the earlier entry is kept unless the next one is strictly smaller -/
theorem argminFirst_eq_fold (x : α × Rat) (t : List (α × Rat)) :
    argminFirst (x :: t) = some (t.foldl (fun acc p => if acc.2 ≤ p.2 then acc else p) x).1 := by
  obtain ⟨k, v⟩ := x
  show some (t.foldl (fun acc p => if p.2 < acc.2 then p else acc) (k, v)).1 = _
  simp only [ite_lt_eq_ite_le]

/-- what `_get_cold_arm_to_warm_arm` decides for one cold arm `c`, given the trained arms and the threshold:
    the body of the loop in `LP.coldToWarm` (`coldToWarm_eq`) -/
def pickWarm (trained : List α) (raw : α → α → Option Rat) (thr : Rat) (c : α) : Option (α × α) :=
  match argminFirst (trained.map fun t => (t, armDistance raw c t)) with
  | none => none
  | some w => if armDistance raw c w ≤ thr then some (c, w) else none

theorem coldToWarm_eq (s : LP α) (keys : List α) (raw : α → α → Option Rat) (q : Rat) :
    s.coldToWarm keys raw q =
      (distanceThreshold keys raw q).map fun thr => s.coldArms.filterMap (pickWarm s.trainedArms raw thr) := by
  unfold LP.coldToWarm
  cases distanceThreshold keys raw q <;> rfl

theorem pickWarm_some {trained : List α} {raw : α → α → Option Rat} {thr : Rat} {c : α} {p : α × α} :
    pickWarm trained raw thr c = some p ↔
      p.1 = c ∧ argminFirst (trained.map fun t => (t, armDistance raw c t)) = some p.2 ∧ armDistance raw c p.2 ≤ thr := by
  unfold pickWarm
  cases argminFirst (trained.map fun t => (t, armDistance raw c t)) with
  | none => simp
  | some w =>
    obtain ⟨p1, p2⟩ := p
    simp only [Option.ite_none_right_eq_some, Option.some.injEq, Prod.mk.injEq]
    exact ⟨fun ⟨h, e1, e2⟩ => ⟨e1.symm, e2, e2 ▸ h⟩, fun ⟨e1, e2, h⟩ => ⟨e2 ▸ h, e1.symm, e2⟩⟩

/-- `MAB.cold_arms`: exactly the arms that are neither observed since the last fit nor warm started -/
theorem cold_arms_spec (s : LP α) (a : α) :
    a ∈ s.coldArms ↔ a ∈ s.arms ∧ ∃ r, s.st.get? a = some r ∧ r.trained = false ∧ r.warm = false := by
  simp only [LP.coldArms, List.mem_filter]
  cases s.st.get? a <;> simp

theorem trained_arms_spec (s : LP α) (a : α) :
    a ∈ s.trainedArms ↔ a ∈ s.arms ∧ ∃ r, s.st.get? a = some r ∧ r.trained = true := by
  simp only [LP.trainedArms, List.mem_filter]
  cases s.st.get? a <;> simp

theorem copyOne_sameCfg (s : LP α) (p : α × α) : SameCfg s (s.copyOne p) := by
  unfold LP.copyOne; split
  · exact sameCfg_st s (Dict.keys_modify ..)
  · exact SameCfg.refl s

theorem copyFold_sameCfg (m : List (α × α)) (s : LP α) : SameCfg s (s.copyFold m) :=
  List.foldlRecOn (motive := SameCfg s) m LP.copyOne (SameCfg.refl s) fun t h p _ => h.trans (copyOne_sameCfg t p)

theorem markWarm_sameCfg (m : List (α × α)) (s : LP α) : SameCfg s (s.markWarm m) :=
  List.foldlRecOn (motive := SameCfg s) m LP.markOne (SameCfg.refl s) fun t h _ _ =>
    h.trans (sameCfg_st t (Dict.keys_modify ..))

theorem markOne_arms (s : LP α) (p : α × α) : (s.markOne p).arms = s.arms := rfl
theorem copyFold_kind (m : List (α × α)) (s : LP α) : (s.copyFold m).kind = s.kind := (copyFold_sameCfg m s).kind.symm

theorem copyOne_get_ne (s : LP α) (p : α × α) (a : α) (h : a ≠ p.1) : (s.copyOne p).st.get? a = s.st.get? a := by
  unfold LP.copyOne; split
  · exact Dict.get?_modify_ne h
  · rfl

/-- **C13 (only cold arms change).**  An arm that is not the target of any pair keeps its record
    untouched by the copying phase — in particular every trained arm and every arm that was warm
    started before. -/
theorem copyFold_get_other (m : List (α × α)) : ∀ (s : LP α) (a : α), a ∉ m.map (·.1) →
    (s.copyFold m).st.get? a = s.st.get? a := fun s a ha =>
  foldl_frame _ (·.st.get? a) m
    (fun s p hp => copyOne_get_ne s p a fun e => ha (e ▸ List.mem_map_of_mem (f := (·.1)) hp)) s

theorem markWarm_get_other (m : List (α × α)) (s : LP α) (a : α) (ha : a ∉ m.map (·.1)) :
    (s.markWarm m).st.get? a = s.st.get? a :=
  foldl_frame LP.markOne (·.st.get? a) m
    (fun _ _ hp => Dict.get?_modify_ne fun e => ha (e ▸ List.mem_map_of_mem (f := (·.1)) hp)) s

/-- **C13 (exact copy).**  When the targets are distinct and no source is a target (guaranteed:
    targets are cold, sources are trained), the record of each target after the copying phase is
    `copyRec` of the source's record *as it was before the call* — the learned state of the closest
    trained arm, field by field as the policy's `_copy_arms` lists them. -/
theorem copyFold_get_target (m : List (α × α)) : ∀ (s : LP α), (m.map (·.1)).Nodup →
    (∀ p ∈ m, p.2 ∉ m.map (·.1)) → ∀ p ∈ m, ∀ src, s.st.get? p.2 = some src →
    (s.copyFold m).st.get? p.1 = (s.st.get? p.1).map (copyRec s.kind src) := by
  intro s hnd hdis p hp src hsrc
  have h2 := hdis p hp
  obtain ⟨pre, post, rfl, hpre, hpost⟩ := split_at_key (·.1) hnd hp
  -- when the turn of `p` comes, the pairs before it have touched neither its target nor its source
  have hsrc' : (s.copyFold pre).st.get? p.2 = some src := by
    rw [copyFold_get_other pre s p.2 fun h => h2 (by rw [List.map_append]; exact List.mem_append_left _ h)]
    exact hsrc
  refine (foldl_keyed_at (fun s k => s.st.get? k) (·.1) LP.copyOne copyOne_get_ne
    pre post p s hpost).trans ?_
  show ((s.copyFold pre).copyOne p).st.get? p.1 = _
  rw [LP.copyOne, hsrc']
  exact (Dict.get?_modify_eq _ _ _).trans (by rw [copyFold_get_other pre s p.1 hpre, copyFold_kind])

theorem markWarm_get_target (m : List (α × α)) (s : LP α) (hnd : (m.map (·.1)).Nodup) (p : α × α) (hp : p ∈ m) :
    (s.markWarm m).st.get? p.1 = (s.st.get? p.1).map fun r => { r with warm := true, warmBy := some p.2 } :=
  foldl_keyed_own (fun (s : LP α) k => s.st.get? k) (fun p : α × α => p.1) LP.markOne
    (fun (p : α × α) (o : Option (ArmSt α)) => o.map fun r : ArmSt α => { r with warm := true, warmBy := some p.2 })
    (fun _ _ _ hk => Dict.get?_modify_ne hk) (fun _ _ => Dict.get?_modify_eq ..) hnd hp s

omit [DecidableEq α] in
theorem copyRec_trained (kind : Kind) (src dst : ArmSt α) : (copyRec kind src dst).trained = dst.trained := by
  unfold copyRec; split <;> rfl

theorem copyOne_view {β : Type} (pr : ArmSt α → β) (hpr : ∀ (kind : Kind) (src dst : ArmSt α), pr (copyRec kind src dst) = pr dst)
    (s : LP α) (p : α × α) : Dict.view pr (s.copyOne p).st = Dict.view pr s.st := by
  unfold LP.copyOne
  split
  · next src _ => exact Dict.view_modify pr s.st p.1 _ (fun r => hpr s.kind src r)
  · rfl

theorem copyFold_view {β : Type} (pr : ArmSt α → β) (hpr : ∀ (kind : Kind) (src dst : ArmSt α), pr (copyRec kind src dst) = pr dst)
    (m : List (α × α)) (s : LP α) : Dict.view pr (s.copyFold m).st = Dict.view pr s.st :=
  foldl_frame _ (Dict.view pr ·.st) m (fun s p _ => copyOne_view pr hpr s p) s

theorem markWarm_view {β : Type} (pr : ArmSt α → β)
    (hpr : ∀ (r : ArmSt α) (w : Bool) (wb : Option α), pr { r with warm := w, warmBy := wb } = pr r)
    (m : List (α × α)) (s : LP α) : Dict.view pr (s.markWarm m).st = Dict.view pr s.st :=
  foldl_frame LP.markOne (Dict.view pr ·.st) m (fun s p _ => Dict.view_modify pr s.st p.1 _ (fun r => hpr r _ _)) s

/-- the status pass touches neither the means nor the shares -/
theorem markOne_expOp (s : LP α) (p : α × α) : (s.markOne p).expOp = s.expOp.markOne p := by
  have hm : (s.markOne p).means = s.means :=
    Dict.vals_of_view (markWarm_view (·.mean) (fun _ _ _ => rfl) [p] s)
  rw [expOp_eq, expOp_eq, hm]
  exact congrArg (fun d => { s with st := d })
    (Dict.mapKV_modify_comm s.st (fun _ r => expRec s.kind s.means r) p.1
      (fun r => { r with warm := true, warmBy := some p.2 }) fun _ _ => by unfold expRec; split <;> rfl).symm

theorem markWarm_expOp (m : List (α × α)) (s : LP α) : (s.markWarm m).expOp = s.expOp.markWarm m :=
  (List.foldl_hom LP.expOp (g₁ := LP.markOne) (g₂ := LP.markOne) (l := m) (init := s)
    (fun s p => (markOne_expOp s p).symm)).symm

/-- the state `warm_start` produces from the pairs `m` -/
def LP.warmed (s : LP α) (m : List (α × α)) : LP α := (s.copyArms m).markWarm m

theorem warmStart_random (s : LP α) (keys : List α) (raw : α → α → Option Rat) (q : Rat) (hk : s.kind = .random) :
    s.warmStart keys raw q = some s := by
  unfold LP.warmStart; rw [hk]

theorem warmStart_eq (s : LP α) (keys : List α) (raw : α → α → Option Rat) (q : Rat) (hk : s.kind ≠ .random) :
    s.warmStart keys raw q = (s.coldToWarm keys raw q).map s.warmed := by
  unfold LP.warmStart
  split
  · exact absurd ‹_› hk
  · cases s.coldToWarm keys raw q <;> rfl

theorem warmed_sameCfg (m : List (α × α)) (s : LP α) : SameCfg s (s.warmed m) :=
  ((copyFold_sameCfg m s).trans (expOp_sameCfg _)).trans (markWarm_sameCfg m _)

theorem warmed_arms (m : List (α × α)) (s : LP α) : (s.warmed m).arms = s.arms :=
  (warmed_sameCfg m s).arms.symm

theorem copyArms_view {β : Type} (pr : ArmSt α → β) (hc : ∀ (kind : Kind) (src dst : ArmSt α), pr (copyRec kind src dst) = pr dst)
    (m : List (α × α)) (s : LP α) (he : ∀ M r, pr (expRec s.kind M r) = pr r) :
    Dict.view pr (s.copyArms m).st = Dict.view pr s.st := by
  rw [LP.copyArms, expOp_eq]
  exact (Dict.view_mapKV pr _ (fun _ r => expRec (s.copyFold m).kind (s.copyFold m).means r) fun _ r =>
    copyFold_kind m s ▸ he _ r).trans (copyFold_view pr hc m s)

theorem copyArms_trained (s : LP α) (m : List (α × α)) (a : α) :
    ((s.copyArms m).st.get? a).map (·.trained) = (s.st.get? a).map (·.trained) :=
  Dict.get?_of_view (copyArms_view (·.trained) copyRec_trained m s fun _ _ => expRec_view (·.trained) (fun _ _ => rfl) ..) a

theorem warmed_trained (m : List (α × α)) (s : LP α) (a : α) :
    ((s.warmed m).st.get? a).map (·.trained) = (s.st.get? a).map (·.trained) :=
  (Dict.get?_of_view (markWarm_view (·.trained) (fun _ _ _ => rfl) m _) a).trans (copyArms_trained s m a)

theorem warmed_trainedArms (m : List (α × α)) (s : LP α) : (s.warmed m).trainedArms = s.trainedArms := by
  unfold LP.trainedArms
  rw [warmed_arms]
  exact List.filter_congr fun a _ => by rw [warmed_trained]

/-- an arm that is no target sees of `warm_start` the Softmax pass only -/
theorem warmed_get_other {β : Type} (pr : ArmSt α → β) (m : List (α × α)) (s : LP α) (he : ∀ M r, pr (expRec s.kind M r) = pr r)
    (a : α) (ha : a ∉ m.map (·.1)) : ((s.warmed m).st.get? a).map pr = (s.st.get? a).map pr := by
  rw [LP.warmed, markWarm_get_other m _ a ha, LP.copyArms, ← copyFold_get_other m s a ha]
  exact expOp_get_view _ pr (fun r => by rw [copyFold_kind]; exact he _ r) a

theorem warmStart_sameCfg (s s' : LP α) (keys : List α) (raw : α → α → Option Rat) (q : Rat)
    (h : s.warmStart keys raw q = some s') : SameCfg s s' := by
  by_cases hk : s.kind = .random
  · rw [warmStart_random s keys raw q hk, Option.some.injEq] at h
    exact h ▸ SameCfg.refl s
  · rw [warmStart_eq s keys raw q hk, Option.map_eq_some_iff] at h
    obtain ⟨m, _, rfl⟩ := h
    exact warmed_sameCfg m s

end Mab
