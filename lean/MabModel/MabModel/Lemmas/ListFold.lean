/-
  List facts the properties share, mostly about `List.foldl`, in core Lean only.  Invariants and simulations of folds are
  core's `List.foldlRecOn`, `List.foldl_rel` and `List.foldl_hom`, used where they are needed; here are the shapes of fold
  the model has: tasks that each write one key of a state (`foldl_keyed_at`, `foldl_keyed_own`: `_parallel_fit`,
  `_copy_arms`, the per-arm loops of TreeBandit), folds that build a list, de-duplication in first-occurrence order
  (the LSH tables), a running extremum that keeps the earlier element on ties (`argmax`, `argmin`, `min`, `max`); at the
  end, positions and lists with the same image under a function.  The first few facts, in namespace `List` or none, speak
  of core notions only; the others are named in `Mab` like the rest of the development.
-/

theorem List.nodup_append_singleton {α : Type} (l : List α) (a : α) (h : l.Nodup) (ha : a ∉ l) : (l ++ [a]).Nodup :=
  List.nodup_append.mpr ⟨h, by simp, by intro x hx y hy; simp at hy; subst hy; exact fun e => ha (e ▸ hx)⟩

theorem List.headD_mem {β : Type} (l : List β) (d : β) : l.headD d ∈ d :: l := by
  cases l <;> simp

namespace List
variable {α β : Type} {f : α → β} (hf : Function.Injective f)
include hf

theorem mem_map_inj {l : List α} {a : α} : f a ∈ l.map f ↔ a ∈ l :=
  ⟨fun h => by obtain ⟨x, hx, e⟩ := List.mem_map.mp h; exact hf e ▸ hx, fun h => List.mem_map.mpr ⟨a, h, rfl⟩⟩

theorem filter_ne_map_inj [DecidableEq α] [DecidableEq β] (l : List α) (a : α) : (l.map f).filter (· != f a) = (l.filter (· != a)).map f := by
  simp only [List.filter_map, Function.comp_def, bne, BEq.beq, hf.eq_iff]

end List

theorem ite_hom {A B : Type} {T : A → B} {c c' : Prop} [Decidable c] [Decidable c'] (hc : c' ↔ c)
    {x y : A} {x' y' : B} (hx : x' = T x) (hy : y' = T y) :
    (if c' then x' else y') = T (if c then x else y) := by
  subst hx hy; by_cases h : c <;> simp [h, hc]

namespace Mab

theorem foldl_frame {σ β γ : Type} (f : σ → β → σ) (pr : σ → γ) (l : List β)
    (h : ∀ s, ∀ b ∈ l, pr (f s b) = pr s) (s : σ) : pr (l.foldl f s) = pr s :=
  List.foldlRecOn (motive := fun t => pr t = pr s) l f rfl fun t ht b hb => (h t b hb).trans ht

theorem split_at_key {T κ : Type} (key : T → κ) {l : List T} (hnd : (l.map key).Nodup) {t : T} (ht : t ∈ l) :
    ∃ pre post, l = pre ++ t :: post ∧ key t ∉ pre.map key ∧ key t ∉ post.map key := by
  obtain ⟨pre, post, rfl⟩ := List.append_of_mem ht
  rw [List.map_append, List.map_cons, List.nodup_append] at hnd
  exact ⟨pre, post, rfl, fun h => hnd.2.2 _ h _ List.mem_cons_self rfl, (List.nodup_cons.mp hnd.2.1).1⟩

theorem foldl_keyed_at {S T κ V : Type} (get : S → κ → V) (key : T → κ) (step : S → T → S)
    (hne : ∀ s t k, k ≠ key t → get (step s t) k = get s k) (pre post : List T) (t : T) (s : S)
    (hpost : key t ∉ post.map key) :
    get ((pre ++ t :: post).foldl step s) (key t) = get (step (pre.foldl step s) t) (key t) := by
  rw [List.foldl_append, List.foldl_cons]
  exact foldl_frame step (get · (key t)) post
    (fun s b hb => hne s b _ fun e => hpost (e ▸ List.mem_map_of_mem hb)) _

theorem foldl_keyed_own {S T κ V : Type} (get : S → κ → V) (key : T → κ) (step : S → T → S) (upd : T → V → V)
    (hne : ∀ s t k, k ≠ key t → get (step s t) k = get s k) (hown : ∀ s t, get (step s t) (key t) = upd t (get s (key t)))
    {l : List T} (hnd : (l.map key).Nodup) {t : T} (ht : t ∈ l) (s : S) :
    get (l.foldl step s) (key t) = upd t (get s (key t)) := by
  obtain ⟨pre, post, rfl, hpre, hpost⟩ := split_at_key key hnd ht
  rw [foldl_keyed_at get key step hne pre post t s hpost, hown,
    foldl_frame step (get · (key t)) pre fun s b hb => hne s b _ fun e => hpre (e ▸ List.mem_map_of_mem hb)]

theorem foldl_append_col {β γ σ : Type} (col : β → γ) (l : List β) (acc : List γ) (g : σ) :
    l.foldl (fun (acc : List γ × σ) a => (acc.1 ++ [col a], acc.2)) (acc, g) = (acc ++ l.map col, g) := by
  induction l generalizing acc with
  | nil => rw [List.foldl_nil, List.map_nil, List.append_nil]
  | cons a l ih => rw [List.foldl_cons, ih, List.map_cons, List.append_assoc, List.singleton_append]

theorem foldl_length_succ {β γ σ : Type} (f : List γ × σ → β → List γ × σ)
    (hf : ∀ acc a, (f acc a).1.length = acc.1.length + 1) (l : List β) (acc : List γ × σ) :
    (l.foldl f acc).1.length = acc.1.length + l.length := by
  induction l generalizing acc with
  | nil => rfl
  | cons a l ih => rw [List.foldl_cons, ih, hf, List.length_cons, Nat.add_assoc, Nat.add_comm 1]

theorem foldl_eq_of_append {β γ : Type} (F : List γ → β) (P : β → List γ → β) (h : ∀ c₀ c, P (F c₀) c = F (c₀ ++ c)) :
    ∀ (cs : List (List γ)) (c₀ : List γ), cs.foldl P (F c₀) = F (c₀ ++ cs.flatten) := by
  intro cs
  induction cs with
  | nil => intro c₀; simp
  | cons c cs ih => intro c₀; rw [List.foldl_cons, h, ih, List.flatten_cons, List.append_assoc]

theorem foldl_append_eq_flatMap {X Y : Type} (f : X → List Y) : ∀ (l : List X) (acc : List Y),
    l.foldl (fun acc x => acc ++ f x) acc = acc ++ l.flatMap f := by
  intro l
  induction l with
  | nil => intro acc; simp
  | cons x l ih => intro acc; rw [List.foldl_cons, ih, List.flatMap_cons, List.append_assoc]

theorem dedupStep_spec {γ : Type} [DecidableEq γ] (acc : List γ) (y : γ) (h : acc.Nodup) :
    (if y ∈ acc then acc else acc ++ [y]).Nodup ∧
    ∀ x, x ∈ (if y ∈ acc then acc else acc ++ [y]) ↔ x ∈ acc ∨ x = y := by
  split
  · next hy => exact ⟨h, fun x => ⟨Or.inl, fun o => o.elim id fun e => e ▸ hy⟩⟩
  · next hy => exact ⟨List.nodup_append_singleton acc y h hy, fun x => by simp⟩

/-- `np.unique`-like bookkeeping: first occurrences, in order -/
theorem dedup_spec {γ : Type} [DecidableEq γ] : ∀ (hs acc : List γ), acc.Nodup →
    (hs.foldl (fun acc h => if h ∈ acc then acc else acc ++ [h]) acc).Nodup ∧
    ∀ x, x ∈ hs.foldl (fun acc h => if h ∈ acc then acc else acc ++ [h]) acc ↔ x ∈ acc ∨ x ∈ hs := by
  intro hs
  induction hs with
  | nil => intro acc h; exact ⟨h, fun x => by simp⟩
  | cons y ys ih =>
    intro acc hacc
    obtain ⟨s1, s2⟩ := dedupStep_spec acc y hacc
    obtain ⟨i1, i2⟩ := ih _ s1
    exact ⟨i1, fun x => by rw [List.foldl_cons, i2, s2, List.mem_cons, or_assoc]⟩

/-- a strict test that replaces is a non-strict test that keeps: the form `foldl_keep_first` wants -/
theorem ite_lt_eq_ite_le {γ : Type} (a b : Rat) (x y : γ) : (if a < b then x else y) = if b ≤ a then y else x := by
  by_cases h : a < b
  · rw [if_pos h, if_neg (Rat.not_le.mpr h)]
  · rw [if_neg h, if_pos (Rat.not_lt.mp h)]

/-- A fold that keeps the running value unless the next element beats it (`R p acc`: "`p` does not
    beat `acc`"), for a total transitive `R`: the result dominates the start and every element, and is
    the start or the *first* element that does so. -/
theorem foldl_keep_first {β : Type} (R : β → β → Prop) [DecidableRel R]
    (total : ∀ a b, R a b ∨ R b a) (trans : ∀ a b c, R a b → R b c → R a c)
    (t : List β) (acc : β) :
    let r := t.foldl (fun acc p => if R p acc then acc else p) acc
    R acc r ∧ (∀ q ∈ t, R q r) ∧
      (r = acc ∨ ∃ pre post, t = pre ++ r :: post ∧ ¬ R r acc ∧ ∀ q ∈ pre, ¬ R r q) := by
  induction t generalizing acc with
  | nil => exact ⟨(total acc acc).elim id id, fun _ h => absurd h List.not_mem_nil, Or.inl rfl⟩
  | cons p t ih =>
    rw [List.foldl_cons]
    by_cases hp : R p acc
    · -- `p` does not beat `acc`: the fold goes on from `acc`
      rw [if_pos hp]
      obtain ⟨i1, i2, i3⟩ := ih acc
      refine ⟨i1, List.forall_mem_cons.mpr ⟨trans _ _ _ hp i1, i2⟩, i3.imp id ?_⟩
      rintro ⟨pre, post, e1, e2, e3⟩
      exact ⟨p :: pre, post, congrArg _ e1, e2, List.forall_mem_cons.mpr ⟨fun h => e2 (trans _ _ _ h hp), e3⟩⟩
    · -- `p` beats `acc`: the fold goes on from `p`
      rw [if_neg hp]
      obtain ⟨i1, i2, i3⟩ := ih p
      have hacc : R acc p := (total acc p).resolve_right hp
      refine ⟨trans _ _ _ hacc i1, List.forall_mem_cons.mpr ⟨i1, i2⟩, Or.inr ?_⟩
      rcases i3 with e | ⟨pre, post, e1, e2, e3⟩
      · exact ⟨[], t, by rw [e]; rfl, by rw [e]; exact hp, fun _ h => absurd h List.not_mem_nil⟩
      · exact ⟨p :: pre, post, congrArg _ e1, fun h => e2 (trans _ _ _ h hacc), List.forall_mem_cons.mpr ⟨e2, e3⟩⟩

theorem foldl_keep_first_mem {β : Type} (R : β → β → Prop) [DecidableRel R] (t : List β) (acc : β) :
    t.foldl (fun acc p => if R p acc then acc else p) acc = acc ∨
      t.foldl (fun acc p => if R p acc then acc else p) acc ∈ t := by
  induction t generalizing acc with
  | nil => exact Or.inl rfl
  | cons p t ih =>
    rw [List.foldl_cons]
    rcases ih (if R p acc then acc else p) with e | e
    · rw [e]; split
      · exact Or.inl rfl
      · exact Or.inr List.mem_cons_self
    · exact Or.inr (List.mem_cons_of_mem _ e)

theorem mem_zipIdx_filterMap {γ δ : Type} (P : γ → Prop) [DecidablePred P] (f : Nat → δ) (l : List γ) (y : δ) :
    y ∈ l.zipIdx.filterMap (fun p => if P p.1 then some (f p.2) else none) ↔
      ∃ i, ∃ h : i < l.length, P l[i] ∧ y = f i := by
  simp only [List.mem_filterMap, List.mem_zipIdx_iff_getElem?, Prod.exists]
  constructor
  · rintro ⟨a, i, hget, hy⟩
    obtain ⟨hi, rfl⟩ := List.getElem?_eq_some_iff.mp hget
    split at hy
    · next hp => exact ⟨i, hi, hp, (Option.some.inj hy).symm⟩
    · cases hy
  · rintro ⟨i, hi, hp, rfl⟩
    exact ⟨l[i], i, List.getElem?_eq_getElem hi, if_pos hp⟩

theorem filterMap_fst_sublist {α β : Type} (l : List α) (f : α → Option (α × β))
    (hf : ∀ c p, f c = some p → p.1 = c) : ((l.filterMap f).map (·.1)).Sublist l := by
  induction l with
  | nil => simp
  | cons x l ih =>
    simp only [List.filterMap_cons]
    cases hfx : f x with
    | none => simp only []; exact List.Sublist.cons _ ih
    | some p =>
      simp only [List.map_cons]
      rw [hf x p hfx]
      exact List.Sublist.cons_cons _ ih

theorem filterMap_sublist_filterMap {β γ : Type} (f g : β → Option γ) (l : List β)
    (h : ∀ x y, f x = some y → g x = some y) : (l.filterMap f).Sublist (l.filterMap g) := by
  induction l with
  | nil => exact .slnil
  | cons x l ih =>
    rw [List.filterMap_cons, List.filterMap_cons]
    cases hf : f x with
    | none => cases g x with
      | none => exact ih
      | some _ => exact .cons _ ih
    | some y => rw [h x y hf]; exact .cons_cons _ ih

theorem filterMap_length_valid {ρ : Type} (hist : List ρ) : ∀ l : List Nat, (∀ j ∈ l, j < hist.length) →
    (l.filterMap fun j => hist[j]?).length = l.length := by
  intro l
  induction l with
  | nil => intro _; rfl
  | cons j l ih =>
    intro h
    have hj : j < hist.length := h j (List.mem_cons_self)
    simp only [List.filterMap_cons, List.getElem?_eq_getElem hj, List.length_cons]
    rw [ih (fun k hk => h k (List.mem_cons_of_mem _ hk))]

theorem getD_map_congr {β γ : Type} (f : β → γ) (l l' : List β) (c : Nat) (d : β) (h : l.map f = l'.map f) :
    f (l.getD c d) = f (l'.getD c d) := by
  have := congrArg (fun l => (l[c]?).getD (f d)) h
  simpa [List.getD_eq_getElem?_getD, List.getElem?_map, Option.getD_map] using this

theorem map_set_of_eq {β γ : Type} (f : β → γ) (l : List β) (c : Nat) (x d : β) (h : f x = f (l.getD c d)) :
    (l.set c x).map f = l.map f := by
  by_cases hc : c < l.length
  · rw [List.map_set, h, List.getD_eq_getElem?_getD, List.getElem?_eq_getElem hc, Option.getD_some,
      ← List.getElem_map f (h := by simpa using hc), List.set_getElem_self]
  · rw [List.set_eq_of_length_le (Nat.le_of_not_lt hc)]

end Mab
