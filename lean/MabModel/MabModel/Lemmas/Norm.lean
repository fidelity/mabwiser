/-
  Forgetting the last Thompson draw.  `_ThompsonSampling.predict*` overwrites `arm_to_expectation` with
  the values it has just drawn; that is the only thing a prediction writes into a learning policy.
  `LP.norm` erases it; for a Thompson policy it is `LP.normT`, and every operation of the policy
  commutes with `normT` because nothing else is computed from that field (`fit` keeps it, `predictExp` overwrites it).
  Hence whatever does not see the last draw of a Thompson policy sees a policy only up to `norm` (`norm_congr`).
-/
import MabModel.Lemmas.WarmStart
import MabModel.Lemmas.Predict
open Py

namespace Mab
variable {α : Type} [DecidableEq α]

/-- forget the last Thompson draw (the only thing a prediction writes into a policy) -/
def LP.norm (s : LP α) : LP α :=
  match s.kind with
  | .thompson => { s with st := s.st.mapKV fun _ r => { r with exp := .val 0 } }
  | _ => s

/-- what `LP.norm` does to one record -/
def zeroExp (r : ArmSt α) : ArmSt α := { r with exp := .val 0 }

def LP.normT (s : LP α) : LP α := { s with st := s.st.mapKV fun _ r => zeroExp r }

omit [DecidableEq α] in
theorem norm_thompson {s : LP α} (h : s.kind = .thompson) : s.norm = s.normT := by
  unfold LP.norm LP.normT zeroExp; rw [h]

omit [DecidableEq α] in
theorem norm_other {s : LP α} (h : s.kind ≠ .thompson) : s.norm = s := by
  unfold LP.norm
  split
  · next hk => exact absurd hk h
  · rfl

/-- **C10 (learning policies).**  `predict_expectations` returns the policy it was called on, except
    that a Thompson policy remembers the last draw in the expectation field of each arm; nothing that
    was learned (sums, counts, means, counters, models, statuses, arms, configuration) changes. -/
theorem predictExp_readonly (s : LP α) (m : Option Nat) (ctxs : List Vec) (own : Stream) (g : Rng) :
    (s.predictExp m ctxs own g).1.norm = s.norm ∧
    (s.kind ≠ .thompson → (s.predictExp m ctxs own g).1 = s) := by
  refine ⟨?_, predictExp_state s m ctxs own g⟩
  by_cases hk : s.kind = .thompson
  · rw [predictExp_thompson s m ctxs own g hk]
    simp only [LP.norm, hk, Dict.mapKV_mapKV]
  · rw [predictExp_state s m ctxs own g hk]

theorem predict_readonly (le : Expect → Expect → Bool) (s : LP α) (m : Option Nat) (ctxs : List Vec)
    (own : Stream) (g : Rng) :
    (s.predict le m ctxs own g).1.norm = s.norm ∧ (s.kind ≠ .thompson → (s.predict le m ctxs own g).1 = s) :=
  -- by definition `predict` returns the policy that `predictExp` returns
  predictExp_readonly s m ctxs own g

theorem norm_sameCfg (s : LP α) : SameCfg s s.norm := by
  by_cases hk : s.kind = .thompson
  · rw [norm_thompson hk]; exact sameCfg_st s (Dict.keys_mapKV ..)
  · rw [norm_other hk]; exact SameCfg.refl s

theorem SameCfg.of_norm_eq {s s' : LP α} (h : s.norm = s'.norm) : SameCfg s s' :=
  (norm_sameCfg s).trans (h ▸ (norm_sameCfg s').symm)

theorem norm_kind (s : LP α) : s.norm.kind = s.kind := (norm_sameCfg s).kind.symm

theorem predictExp_sameCfg (s : LP α) (m : Option Nat) (ctxs : List Vec) (own : Stream) (g : Rng) :
    SameCfg s (s.predictExp m ctxs own g).1 :=
  (SameCfg.of_norm_eq (predictExp_readonly s m ctxs own g).1).symm

omit [DecidableEq α] in
theorem normT_arms (s : LP α) : s.normT.arms = s.arms := rfl

theorem normT_keys (s : LP α) : s.normT.st.keys = s.st.keys := by simp [LP.normT]

theorem get?_normT (s : LP α) (a : α) : s.normT.st.get? a = (s.st.get? a).map zeroExp := by
  simp [LP.normT, Dict.get?_mapKV]

theorem normT_idem (s : LP α) : s.normT.normT = s.normT := by
  simp [LP.normT, Dict.mapKV_mapKV, zeroExp]

theorem resetFor_normT (s : LP α) (bb : Batch α) (w : Option Nat) (hk : s.kind = .thompson) :
    s.normT.resetFor bb w = (s.resetFor bb w).normT := by
  have hnf : s.normT.nfFor bb w = s.nfFor bb w := rfl
  simp only [LP.resetFor, hnf]
  simp only [LP.normT, hk, Dict.mapKV_mapKV]
  rfl

theorem parallelFit_normT (s : LP α) (bb : Batch α) (hk : s.kind = .thompson) :
    s.normT.parallelFit bb = (s.parallelFit bb).normT := by
  simp only [LP.parallelFit, parallelFitIn_eq]
  simp only [LP.normT, hk]
  congr 1
  refine List.foldl_hom (init := s.st) (fun d => d.mapKV fun _ r => zeroExp r) fun d a => ?_
  exact Dict.mapKV_modify_comm d _ a _ fun _ _ => rfl

theorem post_normT (s : LP α) (bb : Batch α) (p : Bool) (hk : s.kind = .thompson) :
    s.normT.post bb p = (s.post bb p).normT := by
  rw [post_eq_mapKV, post_eq_mapKV]
  simp only [LP.normT, hk, Dict.mapKV_mapKV]
  congr 1
  exact Dict.mapKV_congr _ _ _ fun k v _ => by cases decide (k ∈ s.arms ∧ k ∈ batchArms bb) <;> cases p <;> rfl

theorem train_normT (s : LP α) (B : Batch α) (p : Bool) (hk : s.kind = .thompson) :
    s.normT.train B p = (s.train B p).normT := by
  unfold LP.train
  rw [parallelFit_normT s B hk, post_normT _ B p ((parallelFit_kind s B).trans hk)]

theorem fit_normT (s : LP α) (b : Batch α) (w : Option Nat) (hk : s.kind = .thompson) :
    s.normT.fit b w = (s.fit b w).normT := by
  have hr : s.kind ≠ .random := by rw [hk]; exact Kind.noConfusion
  rw [fit_eq_train s b w hr, fit_eq_train s.normT b w hr, resetFor_normT s _ w hk]
  exact train_normT _ _ _ ((resetFor_sameCfg s _ w).kind ▸ hk)

theorem partialFit_normT (s : LP α) (b : Batch α) (hk : s.kind = .thompson) :
    s.normT.partialFit b = (s.partialFit b).normT := by
  have hr : s.kind ≠ .random := by rw [hk]; exact Kind.noConfusion
  rw [partialFit_eq_train s b hr, partialFit_eq_train s.normT b hr]
  exact train_normT (s.bumpTotal _) _ _ hk

theorem addArm_normT (s : LP α) (a : α) (bz : Option (α → Rat → Rat)) (hk : s.kind = .thompson) :
    s.normT.addArm a bz = (s.addArm a bz).normT := by
  simp only [LP.addArm, LP.insertArm, LP.expOp, LP.normT, hk]
  congr 1
  exact Dict.mapKV_set_comm s.st (fun _ r => zeroExp r) a (freshRec Kind.thompson s.numFeatures s.k1fixed)

theorem removeArm_normT (s : LP α) (a : α) (hk : s.kind = .thompson) :
    s.normT.removeArm a = (s.removeArm a).normT := by
  simp only [LP.removeArm, LP.dropArm, LP.expOp, LP.normalize, LP.normT, hk]
  congr 1
  exact Dict.mapKV_pop_comm s.st (fun _ r => zeroExp r) a

/-- the choice of warm arms reads the statuses `trained` and `warm` only -/
theorem coldToWarm_normT (s : LP α) (keys : List α) (raw : α → α → Option Rat) (q : Rat) :
    s.normT.coldToWarm keys raw q = s.coldToWarm keys raw q := by
  unfold LP.coldToWarm LP.coldArms LP.trainedArms
  simp only [get?_normT, Option.map_map]
  rfl

omit [DecidableEq α] in
theorem zeroExp_copyRec (kind : Kind) (src dst : ArmSt α) :
    zeroExp (copyRec kind src dst) = copyRec kind (zeroExp src) (zeroExp dst) := by
  unfold copyRec; split <;> rfl

theorem copyOne_normT (s : LP α) (p : α × α) : s.normT.copyOne p = (s.copyOne p).normT := by
  unfold LP.copyOne
  rw [get?_normT]
  cases s.st.get? p.2 with
  | none => rfl
  | some src =>
    simp only [Option.map_some, LP.normT]
    congr 1
    exact Dict.modify_map Function.injective_id (fun _ r => zeroExp r) s.st p.1 _ _ fun r => (zeroExp_copyRec s.kind src r).symm

theorem markOne_normT (s : LP α) (p : α × α) : s.normT.markOne p = (s.markOne p).normT := by
  simp only [LP.markOne, LP.normT]
  congr 1
  exact Dict.mapKV_modify_comm s.st _ p.1 _ (fun _ r => rfl)

theorem warmStart_normT (s : LP α) (keys : List α) (raw : α → α → Option Rat) (q : Rat) (hk : s.kind = .thompson) :
    s.normT.warmStart keys raw q = (s.warmStart keys raw q).map LP.normT := by
  unfold LP.warmStart
  have hk' : s.normT.kind = .thompson := hk
  rw [hk, hk', coldToWarm_normT]
  cases s.coldToWarm keys raw q with
  | none => rfl
  | some m =>
    have hc : s.normT.copyFold m = (s.copyFold m).normT := List.foldl_hom LP.normT copyOne_normT
    have e1 : (s.copyFold m).normT.expOp = (s.copyFold m).expOp.normT := by
      simp only [LP.expOp, LP.normT, (copyFold_kind m s).trans hk]
    simp only [Option.map_some, LP.copyArms, LP.markWarm, hc, e1]
    exact congrArg some (List.foldl_hom LP.normT markOne_normT)

omit [DecidableEq α] in
theorem getD_map_zeroExp (o : Option (ArmSt α)) : (o.map zeroExp).getD {} = zeroExp (o.getD {}) := by
  cases o <;> rfl

theorem thompsonCols_normT (s : LP α) (size : Nat) (own : Stream) (g : Rng) :
    s.normT.thompsonCols size own g = s.thompsonCols size own g := by
  unfold LP.thompsonCols
  simp only [normT_keys, get?_normT, getD_map_zeroExp, zeroExp]

theorem predictExp_normT (s : LP α) (m : Option Nat) (ctxs : List Vec) (own : Stream) (g : Rng) (hk : s.kind = .thompson) :
    (s.normT.predictExp m ctxs own g).2 = (s.predictExp m ctxs own g).2 ∧
    (s.normT.predictExp m ctxs own g).1.normT = (s.predictExp m ctxs own g).1.normT := by
  rw [predictExp_thompson s.normT m ctxs own g hk, predictExp_thompson s m ctxs own g hk, thompsonCols_normT, normT_arms]
  exact ⟨rfl, by simp only [LP.normT, Dict.mapKV_mapKV, zeroExp]⟩

theorem stepOp_normT (s : LP α) (op : LPOp α) (hk : s.kind = .thompson) : s.normT.stepOp op = (s.stepOp op).normT := by
  cases op with
  | fit b w => exact fit_normT s b w hk
  | partialFit b => exact partialFit_normT s b hk
  | addArm a => simp only [LP.stepOp, normT_arms, apply_ite LP.normT, addArm_normT s a none hk]
  | removeArm a => simp only [LP.stepOp, normT_arms, apply_ite LP.normT, removeArm_normT s a hk]

theorem normT_norm (s : LP α) (hk : s.kind = .thompson) : s.normT.norm = s.norm := by
  rw [norm_thompson (s := s.normT) hk, norm_thompson hk, normT_idem]

theorem norm_of_normT {x y : LP α} (hy : y.kind = .thompson) (h : x = y.normT) : x.norm = y.norm :=
  h ▸ normT_norm y hy

theorem norm_congr {β : Type} (F : LP α → β) (hT : ∀ s, s.kind = .thompson → F s.normT = F s) {s s' : LP α}
    (h : s.norm = s'.norm) : F s = F s' := by
  have hkk : s'.kind = s.kind := by rw [← norm_kind s', ← h, norm_kind]
  by_cases hk : s.kind = .thompson
  · rw [norm_thompson hk, norm_thompson (hkk.trans hk)] at h
    rw [← hT s hk, ← hT s' (hkk.trans hk), h]
  · rw [norm_other hk, norm_other (hkk ▸ hk)] at h
    rw [h]

theorem predictExp_out_of_norm (y y' : LP α) (m : Option Nat) (ctxs : List Vec) (own : Stream) (g : Rng)
    (h : y.norm = y'.norm) : (y.predictExp m ctxs own g).2 = (y'.predictExp m ctxs own g).2 :=
  norm_congr (fun s => (s.predictExp m ctxs own g).2) (fun s hk => (predictExp_normT s m ctxs own g hk).1) h

theorem stepOp_norm_congr (s s' : LP α) (h : s.norm = s'.norm) (op : LPOp α) :
    (s.stepOp op).norm = (s'.stepOp op).norm :=
  norm_congr (fun s => (s.stepOp op).norm)
    (fun s hk => norm_of_normT ((stepOp_kind s op).trans hk) (stepOp_normT s op hk)) h

theorem run_norm_congr (ops : List (LPOp α)) : ∀ (s s' : LP α), s.norm = s'.norm →
    (s.run ops).norm = (s'.run ops).norm :=
  fun _ _ h => List.foldl_rel (f := LP.stepOp) (g := LP.stepOp) (r := fun x y : LP α => x.norm = y.norm) h
    fun op _ x y hxy => stepOp_norm_congr x y hxy op

end Mab
