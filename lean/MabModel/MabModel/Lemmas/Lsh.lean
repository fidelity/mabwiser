/-
  LSHNearest: what the hash tables hold and what a query selects.  `hashIdx` lists the positions of the rows with a
  given code under a plane; the bucket invariant `Bandit.LshInv` says every bucket of every table is that list; under it
  the selection is a function of planes and stored rows alone (`lshSel`, `lsh_selectIdx_eq`), the tables gone from the
  picture.
-/
import MabModel.Core.Bandit
import MabModel.Lemmas.ListFold
open Py

namespace Mab
variable {α : Type}

section
variable {γ : Type} [DecidableEq γ]

/-- the distinct elements in order of first occurrence: how `lshInsert` lists the hash codes of a batch (before sorting
    them) and `selectIdx` the positions it finds in the tables -/
def firstOccs (l : List γ) : List γ := l.foldl (fun acc x => if x ∈ acc then acc else acc ++ [x]) []

theorem nodup_firstOccs (l : List γ) : (firstOccs l).Nodup := (dedup_spec l [] List.nodup_nil).1

theorem mem_firstOccs {l : List γ} {x : γ} : x ∈ firstOccs l ↔ x ∈ l :=
  ((dedup_spec l [] List.nodup_nil).2 x).trans (or_iff_right List.not_mem_nil)

end

/-- positions (offset by `start`) of the rows of `ctxs` whose hash under `plane` is `h`, ascending -/
def hashIdx (plane : Mat) (ctxs : List Vec) (start : Nat) (h : Nat) : List Nat :=
  (ctxs.map (contextHash plane)).zipIdx.filterMap fun (p : Nat × Nat) => if p.1 = h then some (p.2 + start) else none

theorem mem_hashIdx (plane : Mat) (ctxs : List Vec) (start h j : Nat) :
    j ∈ hashIdx plane ctxs start h ↔ ∃ i, ∃ (hi : i < ctxs.length), contextHash plane (ctxs[i]) = h ∧ j = i + start := by
  refine (mem_zipIdx_filterMap (fun c : Nat => c = h) (· + start) _ j).trans ?_
  simp only [List.length_map, List.getElem_map]

theorem flatMap_filter_key (idx : Nat → List Nat) (h : Nat) {ks : List Nat} (hnd : ks.Nodup) (hnil : h ∉ ks → idx h = []) :
    (ks.filter fun k => k = h).flatMap idx = idx h := by
  rw [List.filter_eq, hnd.count]
  split
  · simp
  · next hn => simp [hnil hn]

/-- **C11 (buckets).**  After hashing the rows `ctxs` into a table, the bucket of every hash code `h` is
    the old bucket followed by exactly the positions (offset by the number of rows stored before) of
    the new rows whose code is `h`, in row order. -/
theorem lshInsert_getD (plane : Mat) (table : Dict Nat (List Nat)) (ctxs : List Vec) (start h : Nat) :
    (lshInsert plane table ctxs start).getD h [] = table.getD h [] ++ hashIdx plane ctxs start h := by
  -- one `_add_neighbors` task per distinct code: the buckets are filled key by key
  refine (Dict.getD_foldl_bucket (fun k : Nat => k) (hashIdx plane ctxs start) h _ table).trans
    (congrArg (table.getD h [] ++ ·)
      (flatMap_filter_key _ h ((List.mergeSort_perm _ _).nodup_iff.mpr (nodup_firstOccs _)) fun hn => ?_))
  -- a code no row has: no position carries it
  refine List.eq_nil_iff_forall_not_mem.mpr fun j hj => hn ?_
  obtain ⟨i, hi, hc, _⟩ := (mem_hashIdx plane ctxs start h j).mp hj
  exact List.mem_mergeSort.mpr (mem_firstOccs.mpr (hc ▸ List.mem_map_of_mem (List.getElem_mem hi)))

theorem hashIdx_eq (plane : Mat) (ctxs : List Vec) (start h : Nat) :
    hashIdx plane ctxs start h =
      ((ctxs.map (contextHash plane)).zipIdx start).filterMap fun (p : Nat × Nat) => if p.1 = h then some p.2 else none := by
  rw [hashIdx, List.zipIdx_eq_map_add (i := start), List.filterMap_map]
  exact congrArg (List.filterMap · _) (funext fun ⟨a, j⟩ => by rw [Function.comp_apply, Nat.add_comm])

theorem hashIdx_append (plane : Mat) (c₁ c₂ : List Vec) (h : Nat) :
    hashIdx plane (c₁ ++ c₂) 0 h = hashIdx plane c₁ 0 h ++ hashIdx plane c₂ c₁.length h := by
  rw [hashIdx_eq, hashIdx_eq, hashIdx_eq, List.map_append, List.zipIdx_append, List.filterMap_append, List.length_map,
    Nat.zero_add]

/-- every table's buckets list exactly the stored rows with that hash code -/
def Bandit.LshInv (b : Bandit α) : Prop :=
  b.planes.length = b.tables.length ∧
  ∀ (t : Nat) (hp : t < b.planes.length) (ht : t < b.tables.length) (h : Nat),
    (b.tables[t]).getD h [] = hashIdx (b.planes[t]) (b.hist.map (·.ctx)) 0 h

/-- under the bucket invariant the tables, as far as they can be read, are a function of planes and stored rows -/
theorem lsh_buckets_eq (b : Bandit α) (h : b.LshInv) :
    (List.zip b.planes b.tables).map (fun pt => (pt.1, fun hh => pt.2.getD hh [])) =
      b.planes.map fun pl => (pl, fun hh => hashIdx pl (b.hist.map (·.ctx)) 0 hh) := by
  apply List.ext_getElem
  · simp [h.1]
  · intro i h1 h2
    simp only [List.getElem_map, List.getElem_zip]
    exact Prod.ext rfl (funext fun hh => h.2 i _ _ hh)

theorem selectIdx_lsh {b : Bandit α} {q : Vec} {ds : List Rat} {ks : List Nat} {d t : Nat} {pr : Option (List Rat)}
    (h : b.np = .lsh d t pr) :
    b.selectIdx q ds ks =
      (firstOccs ((List.zip b.planes b.tables).flatMap fun pt => pt.2.getD (contextHash pt.1 q) []), false) := by
  simp only [Bandit.selectIdx, h]
  rw [foldl_append_eq_flatMap (fun pt : Mat × Dict Nat (List Nat) => pt.2.getD (contextHash pt.1 q) []), List.nil_append]
  rfl

/-- the positions a query selects under LSHNearest, from the planes and the stored rows alone: those of the rows
    sharing the query's code under some plane, each once, in order of first appearance -/
def lshSel (planes : List Mat) (hist : Batch α) (q : Vec) : List Nat :=
  firstOccs (planes.flatMap fun pl => hashIdx pl (hist.map (·.ctx)) 0 (contextHash pl q))

theorem mem_lshSel (planes : List Mat) (hist : Batch α) (q : Vec) (i : Nat) :
    i ∈ lshSel planes hist q ↔ ∃ pl ∈ planes, ∃ hi : i < hist.length, contextHash pl (hist[i]).ctx = contextHash pl q := by
  rw [lshSel, mem_firstOccs]
  simp only [List.mem_flatMap, mem_hashIdx, List.length_map, List.getElem_map, Nat.add_zero]
  exact ⟨fun ⟨pl, hpl, j, hj, hc, e⟩ => e ▸ ⟨pl, hpl, hj, hc⟩, fun ⟨pl, hpl, hi, hc⟩ => ⟨pl, hpl, i, hi, hc, rfl⟩⟩

theorem lsh_selectIdx_eq (b : Bandit α) {d t : Nat} {pr : Option (List Rat)} (hnp : b.np = .lsh d t pr) (hinv : b.LshInv)
    (q : Vec) (ds : List Rat) (ks : List Nat) :
    b.selectIdx q ds ks = (lshSel b.planes b.hist q, false) := by
  have h := congrArg (List.map fun x : Mat × (Nat → List Nat) => x.2 (contextHash x.1 q)) (lsh_buckets_eq b hinv)
  simp only [List.map_map, Function.comp_def] at h
  rw [selectIdx_lsh hnp, lshSel, List.flatMap_def, h, ← List.flatMap_def]

end Mab
