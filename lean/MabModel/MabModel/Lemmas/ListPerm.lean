/-
  Positions, permutations, `List.Forall₂` (Mathlib): the positions `0 … n-1` filtered and the rows at them (what Radius
  and LSHNearest select), the first `k` of a sorted arrangement of the positions (KNearest), lists related element by
  element.
-/
import MabModel.Lemmas.ListFold
import Mathlib.Data.List.Perm.Basic

namespace Mab

theorem zipIdx_filterMap_eq_range_filter {γ : Type} (P : γ → Prop) [DecidablePred P] (l : List γ) :
    l.zipIdx.filterMap (fun p => if P p.1 then some p.2 else none) =
      (List.range l.length).filter fun i => (l[i]?).any fun x => decide (P x) := by
  rw [List.range_eq_range', ← List.zipIdx_map_snd 0 l, List.filter_map, ← List.filterMap_eq_map, List.filterMap_filter]
  refine List.filterMap_congr fun p hp => ?_
  rw [Function.comp_apply, List.mem_zipIdx_iff_getElem?.mp hp]
  by_cases h : P p.1 <;> simp [h]

theorem range_filterMap_getElem? {ρ : Type} (l : List ρ) : (List.range l.length).filterMap (fun i => l[i]?) = l := by
  conv => rhs; rw [← List.zipIdx_map_fst 0 l]
  rw [List.range_eq_range', ← List.zipIdx_map_snd 0 l, List.filterMap_map, ← List.filterMap_eq_map]
  exact List.filterMap_congr fun p hp => List.mem_zipIdx_iff_getElem?.mp hp

theorem range_filterMap {ρ : Type} (P : ρ → Bool) : ∀ hist : List ρ,
    ((List.range hist.length).filter (fun i => (hist[i]?).any P)).filterMap (fun i => hist[i]?) = hist.filter P := by
  intro hist
  conv => rhs; rw [← List.filterMap_eq_filter, ← range_filterMap_getElem? hist, List.filterMap_filterMap]
  rw [List.filterMap_filter]
  refine List.filterMap_congr fun i _ => ?_
  cases hist[i]? with
  | none => rfl
  | some x => cases h : P x <;> simp [Option.guard, h]

theorem sel_rows {ρ : Type} (hist : List ρ) (T : ρ → Bool) {idx : List Nat}
    (h : idx.Perm ((List.range hist.length).filter fun i => (hist[i]?).any T)) :
    (idx.filterMap fun j => hist[j]?).Perm (hist.filter T) ∧ idx.length = (hist.filter T).length := by
  have h1 := h.filterMap fun j => hist[j]?
  rw [range_filterMap] at h1
  refine ⟨h1, ?_⟩
  rw [← h1.length_eq, filterMap_length_valid]
  exact fun j hj => List.mem_range.mp (List.mem_filter.mp (h.mem_iff.mp hj)).1

theorem take_sorted_perm_range {R : Nat → Nat → Prop} {l : List Nat} {n k : Nat} (hp : l.Perm (List.range n))
    (hs : l.Pairwise R) (hk : k ≤ n) :
    (l.take k).length = k ∧ (l.take k).Nodup ∧ (∀ i ∈ l.take k, i < n) ∧
    ∀ i ∈ l.take k, ∀ j, j < n → j ∉ l.take k → R i j := by
  refine ⟨by rw [List.length_take, hp.length_eq, List.length_range]; omega,
    (hp.nodup_iff.mpr List.nodup_range).sublist (List.take_sublist k l),
    fun i hi => List.mem_range.mp (hp.mem_iff.mp (List.mem_of_mem_take hi)), fun i hi j hj hjn => ?_⟩
  -- `j` is somewhere in `l`, not among the first `k`, hence after them
  have hjl : j ∈ l.take k ++ l.drop k := by rw [List.take_append_drop]; exact hp.mem_iff.mpr (List.mem_range.mpr hj)
  rw [← List.take_append_drop k l] at hs
  exact (List.pairwise_append.mp hs).2.2 i hi j ((List.mem_append.mp hjl).resolve_left hjn)

theorem forall₂_head {β γ : Type} {R : β → γ → Prop} (l : List β) (l' : List γ) (d : β) (d' : γ) (h : List.Forall₂ R l l')
    (hd : R d d') : R (l.headD d) (l'.headD d') := by
  cases h with
  | nil => exact hd
  | cons h1 _ => exact h1

theorem forall₂_mem_left {β γ : Type} {R : β → γ → Prop} {l : List β} {l' : List γ} (h : List.Forall₂ R l l') :
    ∀ x ∈ l, ∃ y ∈ l', R x y := by
  induction h with
  | nil => intro x hx; simp at hx
  | cons h1 _ ih =>
    intro x hx
    rcases List.mem_cons.mp hx with e | hx
    · exact ⟨_, List.mem_cons_self, e ▸ h1⟩
    · obtain ⟨y, hy, r⟩ := ih x hx
      exact ⟨y, List.mem_cons_of_mem _ hy, r⟩

theorem forall₂_map_zipIdx {β δ : Type} (l l' : List β) (R : β → β → Prop) (S : δ → δ → Prop) (f : β × Nat → δ)
    (h : List.Forall₂ R l l') (hf : ∀ x y i, R x y → S (f (x, i)) (f (y, i))) :
    ∀ k, List.Forall₂ S ((l.zipIdx k).map f) ((l'.zipIdx k).map f) := by
  induction h with
  | nil => intro k; exact List.Forall₂.nil
  | cons h1 _ ih => intro k; simp only [List.zipIdx_cons, List.map_cons]; exact List.Forall₂.cons (hf _ _ _ h1) (ih _)

end Mab
