/-
  The learning-policy model at its base: well-formedness (`LP.WF`), `_parallel_fit` as one pass over the records
  in any task order, and `_fit_arm` field by field (`fitRec_eq`) with its consequences for one record.
-/
import MabModel.Core.LP
open Py
set_option linter.unusedSectionVars false

namespace Mab
variable {α : Type} [DecidableEq α]

structure LP.WF (s : LP α) : Prop where
  keys : s.st.keys = s.arms
  nodup : s.arms.Nodup

/-! ### `_parallel_fit` in any task order -/

theorem parallelFitIn_eq (s : LP α) (b : Batch α) (order : List α) :
    s.parallelFitIn b order =
      { s with st := order.foldl (fun d a => d.modify a (fitRec s.kind s.total (rowsOf b a))) s.st } :=
  List.foldl_hom (init := s.st) (fun d => ({ s with st := d } : LP α)) fun _ _ => rfl

theorem parallelFit_kind (s : LP α) (b : Batch α) : (s.parallelFit b).kind = s.kind := by
  unfold LP.parallelFit; rw [parallelFitIn_eq]

theorem parallelFitIn_closed (s : LP α) (b : Batch α) (order : List α) (ho : order.Nodup)
    (hk : s.st.keys.Nodup) :
    s.parallelFitIn b order =
      { s with st := s.st.mapKV fun c v => if c ∈ order then fitRec s.kind s.total (rowsOf b c) v else v } := by
  rw [parallelFitIn_eq, Dict.foldl_modify order (fun a => fitRec s.kind s.total (rowsOf b a)) ho s.st hk]

theorem parallelFit_closed (s : LP α) (b : Batch α) (h : s.WF) :
    s.parallelFit b =
      { s with st := s.st.mapKV fun c v => fitRec s.kind s.total (rowsOf b c) v } := by
  unfold LP.parallelFit
  rw [parallelFitIn_closed s b s.arms h.nodup (h.keys ▸ h.nodup)]
  congr 1
  apply Dict.mapKV_congr
  intro k v hkv
  have : k ∈ s.arms := by rw [← h.keys]; exact Dict.mem_keys_of_mem _ _ _ hkv
  simp [this]

/-! ### a batch seen arm by arm, and what `_fit_arm` accumulates over appended rows -/

theorem rowsOf_append (b₁ b₂ : Batch α) (a : α) : rowsOf (b₁ ++ b₂) a = rowsOf b₁ a ++ rowsOf b₂ a := by
  simp [rowsOf, List.filter_append, List.map_append]

theorem batchArms_append (b₁ b₂ : Batch α) (a : α) : a ∈ batchArms (b₁ ++ b₂) ↔ a ∈ batchArms b₁ ∨ a ∈ batchArms b₂ := by
  rw [batchArms, List.map_append, List.mem_append]; rfl

theorem rsum_nil : rsum ([] : List (Rat × Vec)) = 0 := rfl

theorem rsum_append (a b : List (Rat × Vec)) : rsum (a ++ b) = rsum a + rsum b := by
  simp [rsum, List.map_append, List.sum_append]

theorem addGram_append (A : Mat) (x y : List Vec) : addGram A (x ++ y) = addGram (addGram A x) y := by
  simp [addGram, List.foldl_append]

theorem addXty_append (v : Vec) (x y : List (Rat × Vec)) : addXty v (x ++ y) = addXty (addXty v x) y := by
  simp [addXty, List.foldl_append]

/-! ### the record a policy starts from -/

theorem resetRec_flags (kind : Kind) (nf : Option Nat) (k1 : Bool) (r : ArmSt α) :
    (resetRec kind nf k1 r).trained = false ∧ (resetRec kind nf k1 r).warm = false ∧ (resetRec kind nf k1 r).warmBy = none := by
  have hf : (freshRec kind nf k1 : ArmSt α).trained = false ∧ (freshRec kind nf k1 : ArmSt α).warm = false ∧
      (freshRec kind nf k1 : ArmSt α).warmBy = none := by
    unfold freshRec; split <;> exact ⟨rfl, rfl, rfl⟩
  unfold resetRec; split <;> exact hf

theorem freshRec_cnt (kind : Kind) (nf : Option Nat) (k1 : Bool) : (freshRec kind nf k1 : ArmSt α).cnt = 0 := by
  unfold freshRec; split <;> rfl

/-! ### `_fit_arm` field by field -/

/-- every policy adds zero; UCB1 rebuilds its value from the stored mean on every call, but only once the count is
    positive -/
theorem fitRec_nil_of_cnt (kind : Kind) (N : Nat) (r : ArmSt α) (h : r.cnt = 0) : fitRec kind N [] r = r := by
  cases kind <;> simp [fitRec, rsum_nil, Rat.add_zero, Rat.sub_self]
  case ucb => exact fun h' => absurd h h'

/-- the policies whose `_fit_arm` keeps a running sum and count -/
def Kind.counts : Kind → Bool
  | .greedy _ | .popularity | .ucb _ | .softmax _ => true
  | _ => false

def ifRows {β : Type} (rs : List (Rat × Vec)) (new old : β) : β := if rs.length ≠ 0 then new else old

/-- The last call with rows wins, and an empty second batch adds nothing to what the first determined.  Use with `rw`,
    giving `G`: as a term against an expected type the unifier has to guess `G` and unfolds everything in sight. -/
theorem ifRows_append {β : Type} (G : List (Rat × Vec) → β) (rs₁ rs₂ : List (Rat × Vec)) (x : β) :
    ifRows rs₂ (G (rs₁ ++ rs₂)) (ifRows rs₁ (G rs₁) x) = ifRows (rs₁ ++ rs₂) (G (rs₁ ++ rs₂)) x := by
  unfold ifRows
  by_cases h₂ : rs₂.length = 0
  · rw [List.eq_nil_of_length_eq_zero h₂, List.append_nil]; rfl
  · rw [if_pos h₂, if_pos (by rw [List.length_append]; omega)]

def fitMean (kind : Kind) (rs : List (Rat × Vec)) (s : Rat) (c : Nat) (m : Rat) : Rat :=
  match kind with
  | .ucb _ | .softmax _ => ifRows rs ((s + rsum rs) / ((c + rs.length : Nat) : Rat)) m
  | _ => m

/-- the expectation `_fit_arm` stores: the running mean (ε-greedy; Popularity, before normalisation), the UCB value -/
def fitExp (kind : Kind) (N : Nat) (rs : List (Rat × Vec)) (s : Rat) (c : Nat) (m : Rat) (e : Expect) : Expect :=
  match kind with
  | .greedy _ | .popularity => ifRows rs (.val ((s + rsum rs) / ((c + rs.length : Nat) : Rat))) e
  | .ucb alpha => if c + rs.length ≠ 0 then .ucb (fitMean kind rs s c m) alpha N (c + rs.length) else e
  | _ => e

/-- Which fields a policy's `_fit_arm` writes, and from which it computes them: status flags and scaler are not
    among them, and no other field is computed from the expectation. -/
theorem fitRec_eq (kind : Kind) (N : Nat) (rs : List (Rat × Vec)) (r : ArmSt α) :
    fitRec kind N rs r =
      { r with
        sum := if kind.counts then r.sum + rsum rs else r.sum
        cnt := if kind.counts then r.cnt + rs.length else r.cnt
        mean := fitMean kind rs r.sum r.cnt r.mean
        exp := fitExp kind N rs r.sum r.cnt r.mean r.exp
        succ := if kind = .thompson then r.succ + rsum rs else r.succ
        fail := if kind = .thompson then r.fail + ((rs.length : Rat) - rsum rs) else r.fail
        A := if kind.isLinear then addGram r.A (rs.map (·.2)) else r.A
        Xty := if kind.isLinear then addXty r.Xty rs else r.Xty
        Ainv := if kind.isLinear then ifRows rs (invD (addGram r.A (rs.map (·.2)))) r.Ainv else r.Ainv
        beta := if kind.isLinear then ifRows rs (mulVec (invD (addGram r.A (rs.map (·.2)))) (addXty r.Xty rs)) r.beta
                else r.beta
        rngPriv := if kind.isLinear then ifRows rs true r.rngPriv else r.rngPriv } := by
  by_cases h : rs = []
  · subst h
    cases kind <;> simp [fitRec, Kind.counts, Kind.isLinear, fitMean, fitExp, ifRows, rsum_nil, addGram, addXty, Rat.add_zero]
    -- UCB1 rebuilds its value from the stored mean when the count is positive
    case ucb => split <;> rfl
  · have hl : rs.length ≠ 0 := by simpa using h
    cases kind <;> simp [fitRec, Kind.counts, Kind.isLinear, fitMean, fitExp, ifRows, hl]

theorem fitRec_flags (kind : Kind) (N : Nat) (rs : List (Rat × Vec)) (r : ArmSt α) :
    (fitRec kind N rs r).trained = r.trained ∧ (fitRec kind N rs r).warm = r.warm ∧ (fitRec kind N rs r).warmBy = r.warmBy := by
  rw [fitRec_eq]; exact ⟨rfl, rfl, rfl⟩

theorem fitMean_append (kind : Kind) (rs₁ rs₂ : List (Rat × Vec)) (s : Rat) (c : Nat) (m : Rat) :
    fitMean kind rs₂ (if kind.counts then s + rsum rs₁ else s) (if kind.counts then c + rs₁.length else c)
      (fitMean kind rs₁ s c m) = fitMean kind (rs₁ ++ rs₂) s c m :=
  match kind with
  | .ucb _ | .softmax _ => by
    simp only [fitMean, Kind.counts, ↓reduceIte]
    rw [Rat.add_assoc, ← rsum_append, Nat.add_assoc, ← List.length_append,
      ifRows_append fun rs => (s + rsum rs) / ((c + rs.length : Nat) : Rat)]
  | .greedy _ | .popularity | .thompson | .random | .linGreedy .. | .linUCB .. | .linTS .. => rfl

theorem fitExp_append (kind : Kind) (N₁ N₂ : Nat) (rs₁ rs₂ : List (Rat × Vec)) (s : Rat) (c : Nat) (m : Rat) (e : Expect) :
    fitExp kind N₂ rs₂ (if kind.counts then s + rsum rs₁ else s) (if kind.counts then c + rs₁.length else c)
      (fitMean kind rs₁ s c m) (fitExp kind N₁ rs₁ s c m e) = fitExp kind N₂ (rs₁ ++ rs₂) s c m e :=
  match kind with
  | .greedy _ | .popularity => by
    simp only [fitExp, Kind.counts, ↓reduceIte]
    rw [Rat.add_assoc, ← rsum_append, Nat.add_assoc, ← List.length_append,
      ifRows_append fun rs => Expect.val ((s + rsum rs) / ((c + rs.length : Nat) : Rat))]
  | .ucb alpha => by
    -- the value is rebuilt whenever the arm has been seen at all, from the mean of `fitMean_append`
    have hm := fitMean_append (.ucb alpha) rs₁ rs₂ s c m
    simp only [fitExp, Kind.counts, ↓reduceIte, List.length_append, ← Nat.add_assoc] at hm ⊢
    rw [hm]
    by_cases h : c + rs₁.length + rs₂.length = 0
    · have h₁ : c + rs₁.length = 0 := by omega
      rw [if_neg (· h), if_neg (· h₁), if_neg (· h)]
    · rw [if_pos h, if_pos h]
  | .softmax _ | .thompson | .random | .linGreedy .. | .linUCB .. | .linTS .. => rfl

/-- Field by field: sums and counts add up, `A` and `Xᵀy` are folds, and what is recomputed (mean, expectation,
    inverse, coefficients) is recomputed from the totals.  `N₁` is irrelevant: UCB1 reads the row count of the last call. -/
theorem fitRec_append (kind : Kind) (N₁ N₂ : Nat) (rs₁ rs₂ : List (Rat × Vec)) (r : ArmSt α) :
    fitRec kind N₂ rs₂ (fitRec kind N₁ rs₁ r) = fitRec kind N₂ (rs₁ ++ rs₂) r := by
  rw [fitRec_eq, fitRec_eq, fitRec_eq]
  dsimp only
  congr 1
  · split <;> simp [rsum_append, Rat.add_assoc]
  · split <;> simp [Nat.add_assoc]
  · exact fitMean_append ..
  · exact fitExp_append ..
  · split <;> simp [rsum_append, Rat.add_assoc]
  -- `f + (n₁ - s₁) + (n₂ - s₂) = f + ((n₁ + n₂) - (s₁ + s₂))`
  · split <;> simp [rsum_append] <;> grind
  · split <;> simp [addGram_append]
  · split <;> simp [addXty_append]
  -- inverse, coefficients, private generator: recomputed by the last call that has rows, from the accumulated `A`, `Xᵀy`
  · split
    · rw [← addGram_append, ← List.map_append, ifRows_append fun rs => invD (addGram r.A (rs.map (·.2)))]
    · rfl
  · split
    · rw [← addGram_append, ← List.map_append, ← addXty_append,
        ifRows_append fun rs => mulVec (invD (addGram r.A (rs.map (·.2)))) (addXty r.Xty rs)]
    · rfl
  · split
    · rw [ifRows_append fun _ => true]
    · rfl

end Mab
