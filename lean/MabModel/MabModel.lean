import MabModel.Py.Dict
import MabModel.Py.Shape
import MabModel.Core.Bandit
import MabModel.Core.Facade
import MabModel.Core.LP
import MabModel.Core.LinAlg
import MabModel.Core.Parallel
import MabModel.Core.Simulator
import MabModel.Core.Types
import MabModel.Core.World
import MabModel.Spec.Log
import MabModel.Lemmas.History
import MabModel.Lemmas.LPBasic
import MabModel.Lemmas.ListFold
import MabModel.Lemmas.ListPerm
import MabModel.Lemmas.Lsh
import MabModel.Lemmas.Nhood
import MabModel.Lemmas.Norm
import MabModel.Lemmas.Predict
import MabModel.Lemmas.Refine
import MabModel.Lemmas.Step
import MabModel.Lemmas.Store
import MabModel.Lemmas.Train
import MabModel.Lemmas.WarmStart
import MabModel.Props.C01
import MabModel.Props.C01b
import MabModel.Props.C02
import MabModel.Props.C02b
import MabModel.Props.C02c
import MabModel.Props.C03
import MabModel.Props.C03b
import MabModel.Props.C04
import MabModel.Props.C05
import MabModel.Props.C05b
import MabModel.Props.C05d
import MabModel.Props.C06
import MabModel.Props.C06c
import MabModel.Props.C06d
import MabModel.Props.C07
import MabModel.Props.C07b
import MabModel.Props.C08
import MabModel.Props.C08b
import MabModel.Props.C08c
import MabModel.Props.C09
import MabModel.Props.C09b
import MabModel.Props.C10
import MabModel.Props.C10b
import MabModel.Props.C11
import MabModel.Props.C12
import MabModel.Props.C12b
import MabModel.Props.C12c
import MabModel.Props.C13
import MabModel.Props.C13b
import MabModel.Props.C14
import MabModel.Props.C14b
import MabModel.Props.C15
import MabModel.Props.C16
import MabModel.Props.C16b
import MabModel.Props.C17
import MabModel.Props.C17b
import MabModel.Props.C18
import MabModel.Props.C19
import MabModel.Props.C19b
import MabModel.Props.C20
import MabModel.Props.C20b
import MabModel.Props.C20d
import MabModel.Props.C20e
import MabModel.Props.C20f
import MabModel.Props.C20g
import MabModel.Props.C20h
import MabModel.Props.C20i
import MabModel.Props.FacadeLift
import MabModel.Props.Real
